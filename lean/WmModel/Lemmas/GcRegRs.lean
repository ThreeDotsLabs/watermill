import WmModel.Lemmas.GcRegInv
namespace Wm.GcReg

variable {s s' : St} {a : Action} {i : Nat} {old new : Th} {l l' : List Th} {n : Nat} {subs subs' : List (Nat × Nat)}

/-- subscription `sid` of topic `t` is registered, or its Subscribe call is inside the critical region about to
    register it -/
def Regd (l : List Th) (subs : List (Nat × Nat)) (t sid : Nat) : Prop :=
  (sid, t) ∈ subs ∨ ∃ j : Nat, l[j]? = some (Th.sub t sid UPc.register)

def RsOn (l : List Th) (nextSid : Nat) (subs : List (Nat × Nat)) : Prop :=
  (∀ (i t sid : Nat) (pc : TPc), l[i]? = some (Th.td t sid pc) → sid < nextSid) ∧
  (∀ (i j t t' sid : Nat) (pc pc' : TPc), l[i]? = some (Th.td t sid pc) → l[j]? = some (Th.td t' sid pc') → i = j) ∧
  (∀ (i t sid : Nat), l[i]? = some (Th.sub t sid UPc.register) →
      sid < nextSid ∧ ∀ (j t' : Nat) (pc' : TPc), l[j]? = some (Th.td t' sid pc') → t' = t) ∧
  (∀ (i t sid : Nat) (pc : TPc), l[i]? = some (Th.td t sid pc) → pc ≠ TPc.done → Regd l subs t sid)

/-- registration bookkeeping: ids are fresh and unique, a live unsubscribe goroutine's subscriber is registered or its
    Subscribe call is still inside the critical region -/
def RsOk (s : St) : Prop := RsOn s.ths s.nextSid s.subs

/-- the threads `RsOk` speaks of: unsubscribe goroutines and Subscribe calls at `register` -/
def rsRel (th : Th) : Bool := isTd th || atRegister th

/-- every unsubscribe goroutine was one before, with the same subscription, and live if it is live now (`backTd`);
    every Subscribe at `register` was there before (`backReg`); the reason a live goroutine had is still one (`keep`) -/
theorem rs_frame (h : RsOn l n subs)
    (backTd : ∀ (j t sid : Nat) (pc : TPc), l'[j]? = some (Th.td t sid pc) →
      ∃ pc', l[j]? = some (Th.td t sid pc') ∧ (pc ≠ TPc.done → pc' ≠ TPc.done))
    (backReg : ∀ (j t sid : Nat), l'[j]? = some (Th.sub t sid .register) → l[j]? = some (Th.sub t sid .register))
    (keep : ∀ (j t sid : Nat) (pc : TPc), l'[j]? = some (Th.td t sid pc) → pc ≠ TPc.done →
      Regd l subs t sid → Regd l' subs' t sid) : RsOn l' n subs' := by
  obtain ⟨r1, r2, r3, r4⟩ := h
  refine ⟨?_, ?_, ?_, ?_⟩
  · intro j t sid pc hj
    obtain ⟨pc', hj', _⟩ := backTd j t sid pc hj
    exact r1 j t sid pc' hj'
  · intro j k t t' sid pc pc' hj hk
    obtain ⟨_, hj', _⟩ := backTd j t sid pc hj
    obtain ⟨_, hk', _⟩ := backTd k t' sid pc' hk
    exact r2 j k t t' sid _ _ hj' hk'
  · intro j t sid hj
    obtain ⟨a1, a2⟩ := r3 j t sid (backReg j t sid hj)
    refine ⟨a1, fun k t' pc' hk => ?_⟩
    obtain ⟨_, hk', _⟩ := backTd k t' sid pc' hk
    exact a2 k t' _ hk'
  · intro j t sid pc hj hpc
    obtain ⟨pc', hj', hl⟩ := backTd j t sid pc hj
    exact keep j t sid pc hj hpc (r4 j t sid pc' hj' (hl hpc))

/-- thread `i` moves; unless it is an unsubscribe goroutine that stays one (`new` with the same subscription, live only
    if `old` was), it is none afterwards; it does not move to `register` -/
theorem rs_set (h : RsOn l n subs) (hold : l[i]? = some old) (hn : atRegister new = false)
    (htd : ∀ t sid pc, new = Th.td t sid pc → ∃ pc', old = Th.td t sid pc' ∧ (pc ≠ TPc.done → pc' ≠ TPc.done))
    (keep : ∀ (j t sid : Nat) (pc : TPc), (l.set i new)[j]? = some (Th.td t sid pc) → pc ≠ TPc.done →
      Regd l subs t sid → Regd (l.set i new) subs' t sid) : RsOn (l.set i new) n subs' := by
  refine rs_frame h (fun j t sid pc hj => ?_) (fun j t sid hj => reg_back_set hn hj) keep
  rcases get_set_cases _ _ _ _ _ hj with ⟨rfl, hth⟩ | ⟨_, hj'⟩
  · obtain ⟨pc', rfl, hl⟩ := htd t sid pc hth.symm
    exact ⟨pc', hold, hl⟩
  · exact ⟨pc, hj', id⟩

theorem reg_kept {t sid : Nat} (hold : l[i]? = some old) (ho : atRegister old = false)
    (hr : ∃ k : Nat, l[k]? = some (Th.sub t sid .register)) : ∃ k : Nat, (l.set i new)[k]? = some (Th.sub t sid .register) := by
  obtain ⟨k, hk⟩ := hr
  refine ⟨k, set_get_of_ne _ _ _ _ _ ?_ hk⟩
  intro hki; subst hki; rw [hold] at hk; cases hk; cases ho

theorem rs_set_other (h : RsOn l n subs) (hold : l[i]? = some old)
    (ho : atRegister old = false) (hn : rsRel new = false) : RsOn (l.set i new) n subs :=
  rs_set h hold (Bool.or_eq_false_iff.mp hn).2 (fun _ _ _ e => by subst e; cases hn)
    (fun _ _ _ _ _ _ hr => hr.imp_right (reg_kept hold ho))

theorem rs_append_other (h : RsOn l n subs) (hn : rsRel new = false) : RsOn (l ++ [new]) n subs := by
  have back : ∀ (j : Nat) (th : Th), (l ++ [new])[j]? = some th → rsRel th = true → l[j]? = some th := by
    intro j th hj hk
    rcases get_append_cases _ _ _ _ hj with ⟨_, hj'⟩ | ⟨_, rfl⟩
    · exact hj'
    · rw [hn] at hk; cases hk
  refine rs_frame h (fun j t sid pc hj => ⟨pc, back j _ hj rfl, id⟩) (fun j t sid hj => back j _ hj rfl) ?_
  intro j t sid pc _ _ hr
  exact hr.imp_right fun ⟨k, hk⟩ => ⟨k, append_get_of_get _ _ _ _ hk⟩

theorem rs_td_move {t sid : Nat} {pc0 pc1 : TPc} (h : RsOn l n subs) (hold : l[i]? = some (Th.td t sid pc0))
    (h0 : pc0 ≠ TPc.done) : RsOn (l.set i (Th.td t sid pc1)) n subs :=
  rs_set h hold rfl (fun _ _ _ e => by cases e; exact ⟨pc0, rfl, fun _ => h0⟩)
    (fun _ _ _ _ _ _ hr => hr.imp_right (reg_kept hold rfl))

/-- Subscribe takes the topic mutex: the subscriber gets the fresh id `n`, which no unsubscribe goroutine and no other
    Subscribe at `register` carries, and its unsubscribe goroutine is started -/
theorem rs_sub_spawn {t sid0 : Nat} (h : RsOn l n subs) (hold : l[i]? = some (Th.sub t sid0 UPc.tlock)) :
    RsOn (l.set i (Th.sub t n UPc.register) ++ [Th.td t n TPc.idle]) (n + 1) subs := by
  obtain ⟨r1, r2, r3, r4⟩ := h
  have hi : i < l.length := (List.getElem?_eq_some_iff.mp hold).1
  have newSub : (l.set i (Th.sub t n UPc.register) ++ [Th.td t n TPc.idle])[i]? = some (Th.sub t n UPc.register) :=
    append_get_of_get _ _ _ _ (List.getElem?_set_self hi)
  have backTd : ∀ (j t' sid : Nat) (pc : TPc),
      (l.set i (Th.sub t n UPc.register) ++ [Th.td t n TPc.idle])[j]? = some (Th.td t' sid pc) →
      (j = l.length ∧ t' = t ∧ sid = n) ∨ l[j]? = some (Th.td t' sid pc) := by
    intro j t' sid pc hj
    rcases get_append_cases _ _ _ _ hj with ⟨_, hj'⟩ | ⟨hje, hth⟩
    · rcases get_set_cases _ _ _ _ _ hj' with ⟨_, hth⟩ | ⟨_, hj''⟩
      · cases hth
      · exact .inr hj''
    · cases hth; exact .inl ⟨hje.trans List.length_set, rfl, rfl⟩
  have backReg : ∀ (j t' sid : Nat),
      (l.set i (Th.sub t n UPc.register) ++ [Th.td t n TPc.idle])[j]? = some (Th.sub t' sid UPc.register) →
      (t' = t ∧ sid = n) ∨ l[j]? = some (Th.sub t' sid UPc.register) := by
    intro j t' sid hj
    rcases get_append_cases _ _ _ _ hj with ⟨_, hj'⟩ | ⟨_, hth⟩
    · rcases get_set_cases _ _ _ _ _ hj' with ⟨_, hth⟩ | ⟨_, hj''⟩
      · cases hth; exact .inl ⟨rfl, rfl⟩
      · exact .inr hj''
    · cases hth
  refine ⟨?_, ?_, ?_, ?_⟩
  · intro j t' sid pc hj
    rcases backTd j t' sid pc hj with ⟨_, _, rfl⟩ | hj'
    · exact Nat.lt_succ_self _
    · exact Nat.lt_succ_of_lt (r1 j t' sid pc hj')
  · intro j k t' t'' sid pc pc' hj hk
    rcases backTd j t' sid pc hj with ⟨hje, _, rfl⟩ | hj' <;> rcases backTd k t'' _ pc' hk with ⟨hke, _, e⟩ | hk'
    · exact hje.trans hke.symm
    · exact absurd (r1 k t'' _ pc' hk') (Nat.lt_irrefl _)
    · exact absurd (e ▸ r1 j t' sid pc hj') (Nat.lt_irrefl _)
    · exact r2 j k t' t'' sid pc pc' hj' hk'
  · intro j t' sid hj
    rcases backReg j t' sid hj with ⟨rfl, rfl⟩ | hj'
    · refine ⟨Nat.lt_succ_self _, fun k t'' pc' hk => ?_⟩
      rcases backTd k t'' _ pc' hk with ⟨_, e, _⟩ | hk'
      · exact e
      · exact absurd (r1 k t'' _ pc' hk') (Nat.lt_irrefl _)
    · obtain ⟨a1, a2⟩ := r3 j t' sid hj'
      refine ⟨Nat.lt_succ_of_lt a1, fun k t'' pc' hk => ?_⟩
      rcases backTd k t'' sid pc' hk with ⟨_, _, e⟩ | hk'
      · exact absurd (e ▸ a1) (Nat.lt_irrefl _)
      · exact a2 k t'' pc' hk'
  · intro j t' sid pc hj hpc
    rcases backTd j t' sid pc hj with ⟨_, rfl, rfl⟩ | hj'
    · exact .inr ⟨i, newSub⟩
    · exact (r4 j t' sid pc hj' hpc).imp_right fun hr =>
        (reg_kept hold rfl hr).imp fun k hk => append_get_of_get _ _ _ _ hk

/-- Subscribe registers the subscriber and leaves the critical region: where it was the reason for a goroutine to be
    live, the registration now is -/
theorem rs_sub_register {t sid : Nat} (h : RsOn l n subs) (hold : l[i]? = some (Th.sub t sid UPc.register)) :
    RsOn (l.set i (Th.sub t sid UPc.retOk)) n (subs ++ [(sid, t)]) := by
  refine rs_set h hold rfl nofun (fun j t' sid' pc _ _ hr => ?_)
  rcases hr with h1 | ⟨k, hk⟩
  · exact .inl (List.mem_append_left _ h1)
  · by_cases hki : k = i
    · subst hki; rw [hold] at hk; cases hk
      exact .inl (List.mem_append_right _ (List.mem_singleton.mpr rfl))
    · exact .inr ⟨k, set_get_of_ne _ _ _ _ _ hki hk⟩

/-- the unsubscribe goroutine removes its subscriber and finishes: the registrations of the other goroutines (other
    ids, by uniqueness) stay -/
theorem rs_td_remove {t sid : Nat} (h : RsOn l n subs) (hold : l[i]? = some (Th.td t sid TPc.remove)) :
    RsOn (l.set i (Th.td t sid TPc.done)) n (subs.erase (sid, t)) := by
  refine rs_set h hold rfl (fun _ _ _ e => by cases e; exact ⟨_, rfl, fun hx => absurd rfl hx⟩)
    (fun j t' sid' pc hj hpc hr => ?_)
  rcases get_set_cases _ _ _ _ _ hj with ⟨_, e⟩ | ⟨hji, hj'⟩
  · cases e; exact absurd rfl hpc
  · refine hr.imp (fun h1 => (List.mem_erase_of_ne ?_).mpr h1) (reg_kept hold rfl)
    intro hx; cases hx
    exact hji (h.2.1 j i t t sid pc _ hj' hold)

theorem rs_init (cfg : Cfg) : RsOk (init cfg) := by simp [RsOk, RsOn, init]

theorem rs_step (h : RsOk s) (hs : Step s a s') : RsOk s' := by
  cases hs with
  | newPub | newPubNested | newSub | newClose => exact rs_append_other h rfl
  | cancel | senderDone | panic => exact h
  | subTlock i t hth => exact rs_sub_spawn h hth
  | thread hth hm =>
    cases hm with
    | subRegister => exact rs_sub_register h hth
    | tdRemove => exact rs_td_remove h hth
    | tdIdle | tdSubClosed | tdAnnounce | tdDrain | tdTlock => exact rs_td_move h hth TPc.noConfusion
    | _ => exact rs_set_other h hth rfl rfl

end Wm.GcReg
