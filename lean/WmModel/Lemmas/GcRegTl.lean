import WmModel.Lemmas.GcRegInv
namespace Wm.GcReg

variable {s s' : St} {a : Action} {i : Nat} {old new : Th} {l : List Th} {tl tl' : List (Nat × Nat)}

/-- the thread holds the mutex of topic `t` -/
def holdsT (t : Nat) : Th → Bool
  | .pub t' _ .persist _ | .pub t' _ .send _ | .pub t' _ (.wait _) _ | .pub t' _ .unlock _ => t' == t
  | .sub t' _ .register => t' == t
  | .td t' _ .remove => t' == t
  | _ => false

def TlOn (l : List Th) (tlocks : List (Nat × Nat)) : Prop :=
  (∀ (t i : Nat), (t, i) ∈ tlocks ↔ ∃ th, l[i]? = some th ∧ holdsT t th = true) ∧
  (∀ (t i j : Nat), (t, i) ∈ tlocks → (t, j) ∈ tlocks → i = j)

/-- `tlocks` is exactly the set of (topic, holder) pairs; a topic mutex has at most one holder -/
def TlOk (s : St) : Prop := TlOn s.ths s.tlocks

theorem tl_init (cfg : Cfg) : TlOk (init cfg) := by simp [TlOk, TlOn, init]

theorem tl_set (h : TlOn l tl) (hold : l[i]? = some old) (huniq : ∀ t a b, (t, a) ∈ tl' → (t, b) ∈ tl' → a = b)
    (htl : ∀ t j, (t, j) ∈ tl' ↔ if j = i then holdsT t new = true else (t, j) ∈ tl) : TlOn (l.set i new) tl' :=
  ⟨fun t j => by rw [htl, exists_set_iff hold, h.1 t j], huniq⟩

theorem tl_mem_self (h : TlOn l tl) (hold : l[i]? = some old) (t : Nat) : (t, i) ∈ tl ↔ holdsT t old = true :=
  (h.1 t i).trans (exists_get_iff hold _)

theorem tl_set_same (h : TlOn l tl) (hold : l[i]? = some old) (hr : ∀ t, holdsT t new = holdsT t old) :
    TlOn (l.set i new) tl := by
  refine tl_set h hold h.2 (fun t j => ?_)
  split
  · next hji => rw [hji, tl_mem_self h hold, hr]
  · rfl

theorem tl_append (h : TlOn l tl) (hn : ∀ t, holdsT t new = false) : TlOn (l ++ [new]) tl :=
  ⟨fun t j => by rw [exists_append_iff (by rw [hn]; exact Bool.noConfusion), h.1 t j], h.2⟩

theorem tlockFree_iff (s : St) (t : Nat) : tlockFree s t = true ↔ ∀ j, (t, j) ∉ s.tlocks := by
  simp only [tlockFree, Bool.not_eq_true', List.any_eq_false, beq_iff_eq, Prod.forall]
  exact ⟨fun h j hj => h t j hj rfl, fun h t' j hj e => h j (e ▸ hj)⟩

theorem tl_set_acquire {t0 : Nat} (h : TlOn l tl) (hold : l[i]? = some old) (hf : ∀ j, (t0, j) ∉ tl)
    (ho : ∀ t, holdsT t old = false) (hn : ∀ t, holdsT t new = (t0 == t)) : TlOn (l.set i new) ((t0, i) :: tl) := by
  have hnoti : ∀ t, (t, i) ∉ tl := fun t hx => by rw [tl_mem_self h hold, ho] at hx; cases hx
  have mem : ∀ t j, (t, j) ∈ (t0, i) :: tl ↔ (t = t0 ∧ j = i) ∨ (t, j) ∈ tl := fun t j => by
    rw [List.mem_cons, Prod.mk.injEq]
  refine tl_set h hold (fun t a b ha hb => ?_) (fun t j => ?_)
  · rcases (mem t a).mp ha with ⟨ht, ha⟩ | ha <;> rcases (mem t b).mp hb with ⟨ht', hb⟩ | hb
    · rw [ha, hb]
    · exact absurd (ht ▸ hb) (hf b)
    · exact absurd (ht' ▸ ha) (hf a)
    · exact h.2 t a b ha hb
  · rw [mem]; split
    · next hji =>
      rw [hn, hji, beq_iff_eq]
      exact ⟨fun hx => hx.elim (fun hx => hx.1.symm) (fun hx => absurd hx (hnoti t)), fun hx => Or.inl ⟨hx.symm, rfl⟩⟩
    · next hji => exact ⟨fun hx => hx.resolve_left (fun hx => hji hx.2), Or.inr⟩

theorem tl_set_release {t0 : Nat} (h : TlOn l tl) (hold : l[i]? = some old)
    (ho : ∀ t, holdsT t old = (t0 == t)) (hn : ∀ t, holdsT t new = false) :
    TlOn (l.set i new) (tl.filter (· != (t0, i))) := by
  have mem : ∀ t j, (t, j) ∈ tl.filter (· != (t0, i)) ↔ (t, j) ∈ tl ∧ ¬(t = t0 ∧ j = i) := fun t j => by
    rw [List.mem_filter, bne_iff_ne, Ne, Prod.mk.injEq]
  refine tl_set h hold (fun t a b ha hb => h.2 t a b ((mem t a).mp ha).1 ((mem t b).mp hb).1) (fun t j => ?_)
  rw [mem, hn]; split
  · next hji =>
    rw [hji, tl_mem_self h hold, ho, beq_iff_eq]
    exact ⟨fun hx => absurd ⟨hx.1.symm, rfl⟩ hx.2, nofun⟩
  · next hji => exact ⟨fun hx => hx.1, fun hx => ⟨hx, fun hx => hji hx.2⟩⟩

theorem tl_step (h : TlOk s) (hs : Step s a s') : TlOk s' := by
  cases hs with
  | newPub | newPubNested | newSub | newClose => exact tl_append h (fun _ => rfl)
  | cancel | senderDone | panic => exact h
  | subTlock i t hth hfree =>
    exact tl_append (tl_set_acquire h hth ((tlockFree_iff s t).mp hfree) (fun _ => rfl) (fun _ => rfl)) (fun _ => rfl)
  | thread hth hm =>
    cases hm with
    | pubTlock hfree | tdTlock hfree =>
      exact tl_set_acquire h hth ((tlockFree_iff s _).mp hfree) (fun _ => rfl) (fun _ => rfl)
    | pubPersistErr | pubUnlock | subRegister | tdRemove => exact tl_set_release h hth (fun _ => rfl) (fun _ => rfl)
    | _ => exact tl_set_same h hth (fun _ => rfl)

end Wm.GcReg
