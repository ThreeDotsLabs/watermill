/-
  C04 – GoChannel delivers every published message to every current subscriber: the per-subscription
  clauses, as theorems over every reachable state of M_sub (WmModel/GcSub.lean): redelivery only after a
  Nack, each delivery a new copy, the copy's context alive while it is unsettled.
  The registry-level clauses (which subscriptions get a sender; no cross-topic delivery) are in Props/C11.lean
  (M_topic), end to end in Props/C04Prod.lean (M_prod), and in the monitors run on recorded executions.
-/
import WmModel.Lemmas.GcSubRed
import WmModel.Props.C05
namespace Wm.GcSub
open Wm.Lts

theorem reach_red (cap : Nat) : ∀ s, Reach (sys cap) s → RedOk s :=
  inv_of_step (sys cap) RedOk (red_init cap) (fun s a s' h ha => red_step s a s' h ha)

/-- **a subscription sees a published message again only after it nacked the previous delivery of it**:
    of any two copies made for one publication, the earlier one is nacked (in every reachable state, so in
    particular at the moment the later copy is created, before it can be delivered) -/
theorem redelivery_only_after_nack (cap : Nat) (s : St) (h : Reach (sys cap) s) (i j : Nat) (ci cj : Copy)
    (hij : i < j) (hi : s.copies[i]? = some ci) (hj : s.copies[j]? = some cj) (hp : ci.pub = cj.pub) :
    ci.settle = .nack :=
  (reach_red cap s h).1 i j ci cj hij hi hj hp

/-- at most one copy of a publication is not nacked (so at most one can ever be acked) -/
theorem at_most_one_live_copy (cap : Nat) (s : St) (h : Reach (sys cap) s) (i j : Nat) (ci cj : Copy)
    (hi : s.copies[i]? = some ci) (hj : s.copies[j]? = some cj) (hp : ci.pub = cj.pub)
    (hni : ci.settle ≠ .nack) (hnj : cj.settle ≠ .nack) : i = j := by
  rcases Nat.lt_trichotomy i j with hlt | heq | hgt
  · exact absurd (redelivery_only_after_nack cap s h i j ci cj hlt hi hj hp) hni
  · exact heq
  · exact absurd (redelivery_only_after_nack cap s h j i cj ci hgt hj hi hp.symm) hnj

/-- **each delivery is a separate copy**: the step that prepares a delivery appends a new copy object
    (unsettled, undelivered) and never reuses an earlier one -/
theorem delivery_uses_fresh_copy (s s' : St) (p c0 : Nat) (hh : s.holder = .sender p .top c0)
    (hc : s.closed = false) (ha : act s .sTop = some s') :
    s'.copies = s.copies ++ [⟨p, false, false, .none⟩] ∧ s'.holder = .sender p .sendSel s.copies.length := by
  simp [act, hh, hc] at ha
  subst ha
  exact ⟨rfl, rfl⟩

/-- **the copy's context is live on receipt and cancelled only after the sender saw the settlement**:
    while a delivered copy is unsettled and the subscription is not closing, the sender that made it is still
    inside `sendMessageToSubscriber` waiting for exactly this copy – its deferred `cancelCtx` has not run -/
theorem unsettled_copy_has_live_sender (cap : Nat) (s : St) (h : Reach (sys cap) s) (c : Nat)
    (hu : Unsettled s c) (hcl : s.closing = false) : ∃ p, s.holder = .sender p .waitSettle c := by
  rcases unsettled_is_owned cap s h c hu with hh | ⟨h1, _⟩
  · exact hh
  · rw [hcl] at h1; cases h1

/-- **keeps receiving it after every Nack until it Acks**: a sender that observes a Nack goes back to the loop
    head (it does not leave), and from the loop head the only way out is a closed subscription -/
theorem nack_means_resend (s s' : St) (ha : act s .sObsNack = some s') :
    ∃ p c, s.holder = .sender p .waitSettle c ∧ s'.holder = .sender p .top c ∧ s'.exits = s.exits := by
  cases step_of_act ha with
  | sObsNack hh _ _ => exact ⟨_, _, hh, rfl, rfl⟩
  | leave _ hl => cases hl

/-! non-vacuity: nack, then a second copy of the same publication, then ack -/
example : ∃ s, exec (sys 0) (init 0) [.spawn, .sLock 0, .sCheck, .sTop, .sSend, .settle 0 .nack, .sObsNack, .sTop, .sSend,
    .settle 1 .ack, .sObsAck] = some s ∧ s.copies.length = 2 ∧ s.exits = [(0, .acked)] := ⟨_, rfl, by decide, by decide⟩

end Wm.GcSub
