/-
  C11 on the full registry model M_reg (GcReg.lean): any number of concurrent Publish, Subscribe, Close calls and
  unsubscribe goroutines on any number of topics, every interleaving of their lock-delimited steps, with the real
  RWMutex / topic-mutex / closedLock protocol (not the three-phase abstraction of M_topic, Props/C11.lean).

  `started` is the ghost list of sender goroutines ever started, `(sid, m)` = "a sender for message `m` was started
  on behalf of subscription `sid`" – by Publish's `sendMessage` for the subscribers registered at that moment, or by
  Subscribe's replay of the persisted log.  `log` is `persistedMessages`.
  In persistent mode, for every registered subscription `sid` of topic `t`:
  * whenever no Publish is between its persist step and the release of the topic mutex on `t`,
    the senders started for `sid` are exactly the persisted messages of `t`, each once, in log order;
  * while a Publish is in that window with `r` still to send, senders ++ r = log: nothing is doubled or skipped,
    the rest of the batch is still owed.
  What a started sender does until the delivery is acked is M_sub (Props/C04.lean, Props/C07.lean).
-/
import WmModel.Lemmas.GcRegC11
import WmModel.Lemmas.GcRegMono
import WmModel.Props.C07Locks
namespace Wm.GcReg
open Wm.Lts

theorem reach_aux (cfg : Cfg) : ∀ s, Reach (sys cfg) s → AuxOk s :=
  inv_of_Step cfg AuxOk (aux_init cfg) (fun hr h hs => aux_step (reach_w1 cfg _ hr) (reach_rs cfg _ hr) h hs)

theorem reach_live (cfg : Cfg) : ∀ s, Reach (sys cfg) s → LiveOk s :=
  inv_of_Step cfg LiveOk (live_init cfg) (fun hr h hs => live_step (reach_w1 cfg _ hr) (reach_close cfg _ hr) h hs)

theorem reach_c11 (cfg : Cfg) : ∀ s, Reach (sys cfg) s → C11Ok s :=
  inv_of_Step cfg C11Ok (c11_init cfg)
    (fun hr h hs => c11_step (reach_tl cfg _ hr) (reach_aux cfg _ hr) (reach_live cfg _ hr) (reach_wg cfg _ hr) h hs)

theorem cfg_const (cfg : Cfg) : ∀ s, Reach (sys cfg) s → s.cfg = cfg :=
  inv_of_step (sys cfg) (fun s => s.cfg = cfg) rfl (fun s a s' h ha => (closing_mono s s' a ha).2.trans h)

/-- **C11, quiescent form** – persistent mode, any reachable state: for a registered subscription of topic `t`, if no
    Publish on `t` is between persisting its batch and releasing the topic mutex, the sender goroutines started for
    it so far carry exactly the persisted messages of `t`: none missing, none doubled, in log order. -/
theorem registry_exactly_one_sender (b : Bool) (s : St) (h : Reach (sys ⟨true, b⟩) s) (sid t : Nat)
    (hreg : (sid, t) ∈ s.subs)
    (hq : ∀ (i : Nat) (r : List Nat) (pc : PPc) (ao : Option (Nat × Nat)),
      s.ths[i]? = some (Th.pub t r pc ao) → afterPersist pc = false) :
    sentTo s sid = logOf s t := by
  refine ((reach_c11 _ s h).2 (by rw [cfg_const _ s h]) sid t hreg).2 fun i r hv => ?_
  obtain ⟨pc, ao, hi, hp⟩ := viewAt_eq_some.mp hv
  rw [hq i r pc ao hi] at hp; cases hp

/-- **C11, mid-Publish form**: while a Publish on `t` is past its persist step with `r` still to send, every
    registered subscription of `t` has had exactly the log minus `r` – in particular a Subscribe cannot slip in
    between (it would have to hold the same topic mutex, `publish_and_subscribe_regions_exclusive`). -/
theorem registry_mid_publish (b : Bool) (s : St) (h : Reach (sys ⟨true, b⟩) s) (sid t i : Nat) (r : List Nat)
    (pc : PPc) (ao : Option (Nat × Nat)) (hreg : (sid, t) ∈ s.subs)
    (hi : s.ths[i]? = some (Th.pub t r pc ao)) (hpc : afterPersist pc = true) :
    sentTo s sid ++ r = logOf s t :=
  ((reach_c11 _ s h).2 (by rw [cfg_const _ s h]) sid t hreg).1 i r (viewAt_eq_some.mpr ⟨pc, ao, hi, hpc⟩)

/-- multiset reading of the quiescent form: per message, the number of senders equals the number of persisted copies -/
theorem registry_sender_count_eq (b : Bool) (s : St) (h : Reach (sys ⟨true, b⟩) s) (sid t : Nat)
    (hreg : (sid, t) ∈ s.subs)
    (hq : ∀ (i : Nat) (r : List Nat) (pc : PPc) (ao : Option (Nat × Nat)),
      s.ths[i]? = some (Th.pub t r pc ao) → afterPersist pc = false) (m : Nat) :
    (sentTo s sid).count m = (logOf s t).count m := by
  rw [registry_exactly_one_sender b s h sid t hreg hq]

/-- a Publish that has reached the release of the topic mutex has sent its whole batch -/
theorem publish_sends_whole_batch (cfg : Cfg) (s : St) (h : Reach (sys cfg) s) (i t : Nat) (r : List Nat)
    (ao : Option (Nat × Nat)) (hi : s.ths[i]? = some (Th.pub t r .unlock ao)) : r = [] :=
  List.isEmpty_iff.mp ((reach_c11 cfg s h).1 i _ hi)

/-- a subscription id is registered for one topic only, at most once -/
theorem subscription_registered_once (cfg : Cfg) (s : St) (h : Reach (sys cfg) s) :
    s.subs.Nodup ∧ ∀ sid t t', (sid, t) ∈ s.subs → (sid, t') ∈ s.subs → t = t' :=
  ⟨(reach_aux cfg s h).2.2.2.2, (reach_aux cfg s h).2.2.2.1⟩

/-- non-vacuity: Publish [7, 8] on topic 0, then a Subscribe that replays, then a Publish [9] that overlaps a second
    Subscribe; both registered subscriptions end with senders 7, 8, 9 – each exactly once -/
def c11Run : List Action :=
  [.newPub 0 [7, 8] none, .step 0, .step 0, .step 0, .step 0, .step 0, .step 0, .step 0, .step 0,
   .newSub 0, .step 1, .step 1, .step 1, .step 1, .step 1, .step 1,
   .newPub 0 [9] none, .newSub 0, .step 3, .step 3, .step 4, .step 4, .step 3, .step 3, .step 3, .step 3, .step 3,
   .step 4, .step 4, .step 4, .step 4]

theorem c11_witness :
    ∃ s, exec (sys ⟨true, false⟩) (init ⟨true, false⟩) c11Run = some s ∧
      s.subs = [(0, 0), (1, 0)] ∧ logOf s 0 = [7, 8, 9] ∧ sentTo s 0 = [7, 8, 9] ∧ sentTo s 1 = [7, 8, 9] ∧
      s.ths.all (fun th => match th with | .pub _ _ pc _ => !afterPersist pc | _ => true) = true := by
  refine ⟨_, rfl, ?_, ?_, ?_, ?_, ?_⟩ <;> decide

end Wm.GcReg
