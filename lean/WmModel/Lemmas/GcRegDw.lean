import WmModel.Lemmas.GcRegSubLive
namespace Wm.GcReg

variable {s s' : St} {i : Nat} {old new : Th} {l l' : List Th} {blocking closing : Bool} {disp : List (List Nat)}

def DwOn (l : List Th) (blocking closing : Bool) (disp : List (List Nat)) : Prop :=
  blocking = true → closing = false →
    ∀ (d sid : Nat), sid ∈ (disp[d]?.getD []) →
      ∃ (i t : Nat) (r : List Nat) (ao : Option (Nat × Nat)), l[i]? = some (Th.pub t r (.wait d) ao) ∧
        ∃ (j : Nat) (pc : TPc), l[j]? = some (Th.td t sid pc)

/-- blocking mode, before the Pub/Sub signals closing: a dispatcher that still waits for a sender of subscription `sid` has its
    Publish call inside `waitForAckFromSubscribers` (holding the mutex of its topic), and `sid` is a subscription of that topic -/
def DwOk (s : St) : Prop := DwOn s.ths s.cfg.blocking s.closingSig s.disp

theorem dw_init (cfg : Cfg) : DwOk (init cfg) := by
  intro _ _ d sid h; simp [init] at h

/-- a Publish inside the wait whose dispatcher still waits for somebody is still there (`hw`), and so is every
    unsubscribe goroutine, whatever its program counter (`htd`) -/
theorem dw_frame (h : DwOn l blocking closing disp)
    (hw : closing = false → ∀ (i t : Nat) (r : List Nat) (d : Nat) (ao : Option (Nat × Nat)),
        l[i]? = some (Th.pub t r (.wait d) ao) → (∃ sid, sid ∈ (disp[d]?.getD [])) →
        l'[i]? = some (Th.pub t r (.wait d) ao))
    (htd : ∀ (j t sid : Nat) (pc : TPc), l[j]? = some (Th.td t sid pc) → ∃ pc', l'[j]? = some (Th.td t sid pc')) :
    DwOn l' blocking closing disp := by
  intro hb hc d sid hm
  obtain ⟨i, t, r, ao, hi, j, pc, hj⟩ := h hb hc d sid hm
  obtain ⟨pc', hj'⟩ := htd j t sid pc hj
  exact ⟨i, t, r, ao, hw hc i t r d ao hi ⟨sid, hm⟩, j, pc', hj'⟩

/-- topic and subscription of an unsubscribe goroutine -/
def tdOf : Th → Option (Nat × Nat)
  | .td t sid _ => some (t, sid)
  | _ => none

theorem td_kept {l : List Th} {i j t sid : Nat} {pc : TPc} (hold : l[i]? = some old)
    (htd : tdOf new = tdOf old) (hj : l[j]? = some (Th.td t sid pc)) : ∃ pc', (l.set i new)[j]? = some (Th.td t sid pc') := by
  by_cases hji : j = i
  · subst hji; rw [hold] at hj; injection hj with hj; subst hj
    cases new with
    | td t' sid' pc' =>
      injection htd with htd; injection htd with e1 e2; subst e1 e2
      exact ⟨pc', List.getElem?_set_self (List.getElem?_eq_some_iff.mp hold).1⟩
    | _ => cases htd
  · exact ⟨pc, set_get_of_ne _ _ _ _ _ hji hj⟩

theorem dw_set (h : DwOn l blocking closing disp) (hold : l[i]? = some old)
    (ho : isWait old = false) (htd : tdOf new = tdOf old) : DwOn (l.set i new) blocking closing disp := by
  refine dw_frame h (fun _ j t r d ao hj _ => set_get_of_ne _ _ _ _ _ ?_ hj) (fun j t sid pc hj => td_kept hold htd hj)
  intro hji; subst hji; rw [hold] at hj; injection hj with hj; subst hj; cases ho

theorem dw_append (h : DwOn l blocking closing disp) : DwOn (l ++ [new]) blocking closing disp :=
  dw_frame h (fun _ _ _ _ _ _ hj _ => append_get_of_get _ _ _ _ hj) (fun _ _ _ pc hj => ⟨pc, append_get_of_get _ _ _ _ hj⟩)

theorem mem_modify_erase (l : List (List Nat)) (d d' sid sid' : Nat)
    (h : sid' ∈ ((l.modify d (fun x => x.erase sid))[d']?.getD [])) : sid' ∈ (l[d']?.getD []) := by
  rw [List.getElem?_modify] at h
  cases hl : l[d']? with
  | none => simp [hl] at h
  | some x =>
    simp only [hl, Option.getD_some] at h ⊢
    split at h
    · exact List.mem_of_mem_erase h
    · exact h

/-- blocking `sendMessage`: the new dispatcher waits for the subscriptions of the topic, each with its goroutine
    (`SubLive`), and its Publish call is now inside the wait -/
theorem dw_send_wait {t m : Nat} {r : List Nat} {ao : Option (Nat × Nat)} {snap : List Nat}
    (hsl : ∀ sid, sid ∈ snap → TdLive l t sid) (h : DwOn l blocking closing disp)
    (hold : l[i]? = some (Th.pub t (m :: r) .send ao)) :
    DwOn (l.set i (Th.pub t r (.wait disp.length) ao)) blocking closing (disp ++ [snap]) := by
  intro hb hc d sid hm
  have other : ∀ {j : Nat} {th : Th}, l[j]? = some th → isTd th = true ∨ isWait th = true →
      (l.set i (Th.pub t r (.wait disp.length) ao))[j]? = some th := by
    intro j th hj hk
    refine set_get_of_ne _ _ _ _ _ ?_ hj
    intro hji; subst hji; rw [hold] at hj; injection hj with hj; subst hj; rcases hk with hk | hk <;> cases hk
  by_cases hd : d < disp.length
  · rw [List.getElem?_append_left hd] at hm
    obtain ⟨i', t', r', ao', hi', j, pc, hj⟩ := h hb hc d sid hm
    exact ⟨i', t', r', ao', other hi' (.inr rfl), j, pc, other hj (.inl rfl)⟩
  · rcases Nat.lt_or_eq_of_le (Nat.le_of_not_lt hd) with hlt | hdl
    · rw [List.getElem?_eq_none (by rw [List.length_append]; exact hlt)] at hm; cases hm
    · subst hdl
      rw [List.getElem?_append_right (Nat.le_refl _), Nat.sub_self] at hm
      obtain ⟨j, pc, hj, _⟩ := hsl sid hm
      exact ⟨i, t, r, ao, List.getElem?_set_self (List.getElem?_eq_some_iff.mp hold).1, j, pc, other hj (.inl rfl)⟩

theorem dw_step (s : St) (a : Action) (s' : St) (hsl : SubLive s) (h : DwOk s) (ha : act s a = some s') : DwOk s' := by
  cases step_of_act ha with
  | newPub | newPubNested | newSub | newClose => exact dw_append h
  | cancel | panic => exact h
  | senderDone => exact fun hb hc d sid hm => h hb hc d sid (mem_modify_erase _ _ _ _ _ hm)
  | subTlock i t hth => exact dw_append (dw_set h hth rfl rfl)
  | thread hth hm =>
    cases hm with
    | pubSendWait => exact dw_send_wait (fun sid hm => hsl sid _ ((mem_subsOf s _ sid).mp hm)) h hth
    | pubSendNext hnb => exact fun hb => absurd (hb.symm.trans hnb) nofun
    | pubWait hcond =>
      -- the Publish leaves its wait: unless the Pub/Sub is closing, its dispatcher waits for nobody any more
      refine dw_frame h (fun hc j t' r' d' ao' hj hex => ?_) (fun j t' sid pc hj => td_kept hth rfl hj)
      refine set_get_of_ne _ _ _ _ _ ?_ hj
      intro hji; subst hji
      rw [hth] at hj; injection hj with hj; injection hj with _ _ e3 _; injection e3 with e3; subst e3
      obtain ⟨sid, hm⟩ := hex
      rcases hcond with hcond | hcond
      · rw [hcond] at hm; cases hm
      · rw [hc] at hcond; cases hcond
    | closeStart => exact fun _ hc => nomatch hc
    | _ => exact dw_set h hth rfl rfl

end Wm.GcReg
