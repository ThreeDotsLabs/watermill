/-
  C07/C05 – no livelock in a subscription: the senders and the teardown of M_sub take finitely many steps between
  environment actions (publishes arriving, consumer receiving/settling, cancel, Close).  Potential argument with
  credits (`Lts.steps_bounded_credit`): every internal step lowers the potential, an environment action raises it by
  at most 10.  Together with `close_progress` (some close step is always enabled) this gives: after cancel / Close the
  teardown of a subscription completes within a bounded number of its own steps, whatever the consumer does.
-/
import WmModel.Props.C07
namespace Wm.GcSub
open Wm.Lts

/-- steps of sender goroutines and of the unsubscribe goroutine (everything but the environment) -/
def internal : Action → Bool
  | .spawn | .recv | .settle _ _ | .cancel | .gClose => false
  | _ => true

def holderRank (s : St) : Nat :=
  match s.holder with
  | .free | .closer => 0
  | .sender _ .check _ => 5
  | .sender _ .top _ => 4
  | .sender _ .sendSel _ => 3
  | .sender _ .waitSettle c =>
    match s.copies[c]? with
    | some cp => if cp.settle = .nack then 5 else 2
    | none => 2

def tdRank : TdPc → Nat
  | .waiting => 3 | .wantLock => 2 | .locked => 1 | .done => 0

def potential (s : St) : Nat := 10 * s.waiting.length + holderRank s + tdRank s.td

/-- a copy the holder is about to send is unsettled (it was never received) -/
theorem cur_unsettled_at_sendSel (cap : Nat) (s : St) (hr : Reach (sys cap) s) (p c : Nat)
    (hh : s.holder = .sender p .sendSel c) : ∃ cp, s.copies[c]? = some cp ∧ cp.settle = .none := by
  obtain ⟨cp, hcp, hdel⟩ := (reach_uns cap s hr).1 p c hh
  have ⟨k1, k2⟩ := (reach_copy cap s hr).1 c cp hcp
  refine ⟨cp, hcp, Decidable.byContradiction fun hs => ?_⟩
  have := k1 (k2 hs)
  rw [hdel] at this; cases this

/-- the rank looks at the holder and at the copies only -/
theorem rank_eq {s t : St} (hh : t.holder = s.holder) (hc : t.copies = s.copies) : holderRank t = holderRank s := by
  unfold holderRank; rw [hh, hc]

theorem rank_le (s : St) : holderRank s ≤ 5 := by
  unfold holderRank
  repeat' split
  all_goals decide

theorem rank_sender {s : St} {p c : Nat} {pc : SPc} (hh : s.holder = .sender p pc c) : 2 ≤ holderRank s := by
  unfold holderRank; rw [hh]
  cases pc <;> dsimp only
  case waitSettle => (repeat' split) <;> decide
  all_goals decide

/-- a sender that waits for the settlement of a copy that is not nacked -/
theorem rank_waiting {t : St} {p c : Nat} (hh : t.holder = .sender p .waitSettle c)
    (hn : ∀ cp, t.copies[c]? = some cp → cp.settle ≠ .nack) : holderRank t = 2 := by
  unfold holderRank; rw [hh]; dsimp only
  split
  · rw [if_neg (hn _ ‹_›)]
  · rfl

/-- a step of a sender that holds the lock: the queue and the teardown stay as they are -/
theorem pot_of_rank {s t : St} (hw : t.waiting = s.waiting) (htd : t.td = s.td) (hr : holderRank t + 1 ≤ holderRank s) :
    potential t + 1 ≤ potential s := by
  unfold potential; rw [hw, htd]; omega

/-- a step of the teardown -/
theorem pot_of_td {s t : St} (hw : t.waiting = s.waiting) (hr : holderRank t ≤ holderRank s)
    (htd : tdRank t.td + 1 ≤ tdRank s.td) : potential t + 1 ≤ potential s := by
  unfold potential; rw [hw]; omega

theorem internal_step_decreases (cap : Nat) (s : St) (a : Action) (s' : St) (hr : Reach (sys cap) s)
    (ha : act s a = some s') (hi : internal a = true) : potential s' + 1 ≤ potential s := by
  have rank : ∀ {x : Holder}, s.holder = x → holderRank s = holderRank { s with holder := x } :=
    fun e => rank_eq (t := s) e rfl
  have hstep : (sys cap).act s a = some s' := ha
  cases step_of_act ha with
  | spawn | recv _ | settle _ _ _ | cancel | gClose => cases hi
  -- the panic branches would lead to a reachable state that has panicked
  | sendPanic _ _ _ | tdStartPanic _ _ _ _ | tdClosePanic _ _ => cases never_panics cap _ (.step hr hstep)
  | @sLock k p hf hk =>
    have hlt := (List.getElem?_eq_some_iff.mp hk).1
    unfold potential
    rw [rank hf]
    show 10 * (s.waiting.eraseIdx k).length + 5 + tdRank s.td + 1 ≤ 10 * s.waiting.length + 0 + tdRank s.td
    rw [List.length_eraseIdx_of_lt hlt]; omega
  | sCheck hh _ | sTop hh _ => exact pot_of_rank rfl rfl (by rw [rank hh]; exact Nat.le_refl _)
  | sendDirect hh _ _ | sendBuf hh _ _ _ =>
    refine pot_of_rank rfl rfl ?_
    rw [rank hh, rank_waiting rfl fun cp hcp => ?_]
    · exact Nat.le_refl _
    · -- the copy just put into the channel is not settled yet
      obtain ⟨cp0, hcp0, hset0⟩ := cur_unsettled_at_sendSel cap s hr _ _ hh
      rcases getElem?_modify_some _ _ _ _ _ hcp with ⟨_, x, hx, rfl⟩ | ⟨e, _⟩
      · rw [hcp0] at hx; cases hx
        show cp0.settle ≠ .nack
        rw [hset0]; nofun
      · exact absurd rfl e
  | leave hh _ => exact pot_of_rank rfl rfl (Nat.le_of_succ_le (rank_sender hh))
  | sObsNack hh hc hn =>
    refine pot_of_rank rfl rfl ?_
    show 4 + 1 ≤ holderRank s
    unfold holderRank; rw [hh]; dsimp only; rw [hc]; dsimp only; rw [if_pos hn]; exact Nat.le_refl _
  | tdStartDone htd _ _ => exact pot_of_td rfl (Nat.le_of_eq (rank_eq rfl rfl)) (by rw [htd]; exact (by decide : 1 ≤ 3))
  | tdStart htd _ _ _ => exact pot_of_td rfl (Nat.le_of_eq (rank_eq rfl rfl)) (by rw [htd]; exact Nat.le_refl _)
  | tdLock htd _ | tdClose htd _ => exact pot_of_td rfl (Nat.zero_le _) (by rw [htd]; exact Nat.le_refl _)

/-- a step of the consumer: whatever it does to a copy, the holder's rank is at most 5 -/
theorem pot_of_consumer {s t : St} (hw : t.waiting = s.waiting) (htd : t.td = s.td) : potential t ≤ potential s + 10 := by
  have := rank_le t
  unfold potential; rw [hw, htd]; omega

theorem env_step_credit (s : St) (a : Action) (s' : St) (ha : act s a = some s') (hi : internal a = false) :
    potential s' ≤ potential s + 10 := by
  cases step_of_act ha with
  | spawn =>
    unfold potential
    show 10 * (s.waiting ++ [s.nextPub]).length + holderRank s + tdRank s.td ≤ _
    rw [List.length_append]; show 10 * (_ + 1) + _ + _ ≤ _; omega
  | cancel | gClose => exact Nat.le_add_right _ _
  | recv _ | settle _ _ _ => exact pot_of_consumer rfl rfl
  | leave _ hl => cases hl <;> cases hi
  | _ => cases hi

/-- **no livelock**: in every run of a subscription the number of steps taken by sender goroutines and by the
    teardown is at most 3 + 10 × the number of environment actions (arriving publishes, consumer receives and
    settlements, cancel, Close) -/
theorem internal_steps_bounded (cap : Nat) (run : List Action) (s' : St)
    (h : exec (sys cap) (init cap) run = some s') :
    (run.filter internal).length ≤ 3 + 10 * (run.filter (fun a => !internal a)).length := by
  have := steps_bounded_credit (sys cap) potential internal 10
    (fun s a s' hr ha hi => internal_step_decreases cap s a s' hr ha hi)
    (fun s a s' _ ha hi => env_step_credit s a s' ha hi)
    run (init cap) s' Reach.init h
  rw [show potential (init cap) = 3 from rfl] at this
  omega

end Wm.GcSub
