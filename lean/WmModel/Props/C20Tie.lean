/-
  C20 – generated tie: the body of `(*publisher).applyDelay` extracted from the current Go source, interpreted,
  equals the hand-written model for every configuration, topic and message; and the two `Publish` methods that
  loop over the batch have the loop-then-forward-once shape the model gives them.
  Likewise the bodies of `PublisherPrometheusMetricsDecorator.Publish` and of the function returned by
  `HandlerPrometheusMetricsMiddleware.Middleware` (`WmModel/GoMetrics.lean`).
  `WmModel/Gen/DelayBody.lean` and `WmModel/Gen/MetricsBody.lean` are rewritten by the extractor on every run.
  Proofs split the input where the interpreter consults it; then both sides compute: `rfl` after a split into
  constructors, `simp` with the interpreter's equations where the case is a hypothesis about an opaque test.
-/
import WmModel.GoDelay
import WmModel.Gen.DelayBody
import WmModel.GoMetrics
import WmModel.Gen.MetricsBody
namespace Wm.GoDelay
open Wm.Decor

theorem extracted_applyDelay_eq_model (cfg : DelayCfg) (topic : String) (m : Msg) :
    exec cfg topic Gen.applyDelayBody { m := m } = some (applyDelay cfg topic m) := by
  unfold applyDelay
  repeat' split
  all_goals simp [Gen.applyDelayBody, exec, execStmt, execLeaves, execLeaf, evalC, *]

/-- `delay.publisher.Publish` = apply the delay to every message, return at the first error, then ONE call of the
    wrapped publisher with the whole batch; `messageTransformPublisherDecorator.Publish` = transform every message,
    then ONE call with the whole batch (the shapes `Wm.Decor.publish` gives the two layers) -/
theorem extracted_publish_shapes :
    Gen.delayPublishShape = .loopThenForward "applyDelay-return-on-error" ∧
    Gen.transformPublishShape = .loopThenForward "transform" := by
  constructor <;> rfl

end Wm.GoDelay

namespace Wm.GoMetrics
open Wm.Decor

/-- the body of `PublisherPrometheusMetricsDecorator.Publish` extracted from the current source, interpreted over any
    wrapped publisher `k`, is the metrics layer of the model (which `publish_metrics_eq` identifies with
    `Wm.Decor.publish` on `.metrics :: rest`): empty batch forwarded unobserved; context of the first message captured
    BEFORE the marks are set; every message marked; one inner call; observed in the deferred function unless the
    captured context was marked, with `success` from the returned error -/
theorem extracted_metricsPublish_eq_model (name : String) (k : List Msg → PWorld → Res) (ms : List Msg) (w : PWorld) :
    execP name k w Gen.metricsPublishBody { ms := ms } = some (metricsLayer name k ms w) := by
  -- the two things consulted: is the batch empty, is its first message marked
  rcases ms with _ | ⟨⟨_, _, _, _ | _⟩, tl⟩ <;> rfl

/-- the function returned by `HandlerPrometheusMetricsMiddleware.Middleware`, extracted from the current source and
    interpreted for each way the wrapped handler can end (a panic unwinds through the deferred function): exactly one
    observation, `success` iff the handler returned nil without panicking -/
theorem extracted_handler_eq_model (h : String) (o : Outcome) :
    execH h o Gen.handlerBody {} = some [handlerObs h o] := by
  cases o <;> rfl

end Wm.GoMetrics
