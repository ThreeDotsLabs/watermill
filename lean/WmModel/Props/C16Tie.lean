/-
  C16 – generated ties: the bodies of `(*Message).Equals` and `(*Message).Copy` extracted from the current Go
  source (`WmModel/Gen/ValueBody.lean`, rewritten by the extractor on every run), interpreted by
  `WmModel/ValueGo.lean`, equal the hand-written model on ALL inputs (messages / heaps of any size); and the
  watermill-side glue around the library codecs read off the source (`WmModel/Gen/ValueGlue.lean`: reply metadata,
  CQRS marshalers, forwarder envelope) uses the keys, sources and shapes the model has.
  Proofs split the input where the interpreter consults it; then both sides compute: `rfl` after a split into
  constructors, `simp` with the interpreter's equations where the case is a hypothesis about an opaque test.
-/
import WmModel.ValueGo
import WmModel.Gen.ValueBody
import WmModel.Gen.ValueGlue
import WmModel.Lemmas.ValueHeap
namespace Wm.Value.Go
open Wm.Value

/-- one iteration of the extracted loop body is one iteration of the model's loop -/
theorem extracted_equals_loop_step (a b : Msg) (k v : String) :
    execL a b Gen.equalsLoopBody { key := k, val := v } =
      match lookup b.md k with
      | none => .ret false
      | some ov => if v ≠ ov then .ret false else .cont { key := k, val := v, otherVal := ov, ok := true } := by
  cases h : lookup b.md k with
  | none => simp [Gen.equalsLoopBody, execL, evalS, evalC, pick, h]
  | some ov =>
    by_cases hv : v = ov <;> simp [Gen.equalsLoopBody, execL, evalS, evalC, pick, h, hv]

theorem extracted_equals_loop (a b : Msg) (md : Meta) :
    execRange a b Gen.equalsLoopBody md = if equalsLoop b.md md then .cont {} else .ret false := by
  induction md with
  | nil => simp [execRange, equalsLoop]
  | cons e r ih =>
    obtain ⟨k, v⟩ := e
    have hs := extracted_equals_loop_step a b k v
    cases h : lookup b.md k with
    | none =>
      rw [h] at hs
      simp [execRange, hs, equalsLoop, h]
    | some ov =>
      rw [h] at hs
      by_cases hv : v = ov
      · simp [hv] at hs
        simp [execRange, hs, equalsLoop, h, hv, ih]
      · simp [hv] at hs
        simp [execRange, hs, equalsLoop, h, hv]

/-- **tie**: what the source of `Equals` says now is the model, for every pair of messages -/
theorem extracted_equals_eq_model (a b : Msg) : exec a b Gen.equalsBody = some (equals a b) := by
  unfold equals
  simp only [Gen.equalsBody, exec, evalC, evalS, pick, extracted_equals_loop]
  by_cases hu : a.uuid = b.uuid
  · by_cases hl : a.md.length = b.md.length
    · cases hloop : equalsLoop b.md a.md <;> simp [hu, hl]
    · simp [hu, hl]
  · simp [hu]

/-- writes through the freshly allocated object are writes at its (fresh) address -/
theorem setEach_fresh (g : Heap) (j a : Nat) (es : Meta)
    (hj : g.refOf j = some a) : setEach g j .key .val es = some (g.writeAll a es) := by
  induction es generalizing g with
  | nil => rfl
  | cons e r ih =>
    simp only [setEach, sel, Heap.setMeta_of_refOf hj]
    exact ih (g.write a e.1 e.2) hj

/-- **tie**: what the source of `Copy` says now is the model's `copy`, for every heap and every receiver -/
theorem extracted_copy_eq_model (h : Heap) (i : Nat) :
    execCopy i Gen.copyBody h none = (h.copy i).map fun h' => (h', h.objs.length) := by
  simp only [Gen.copyBody, execCopy, Heap.copy]
  cases hv : h.view i with
  | none => rfl
  | some m =>
    -- the receiver is unchanged by the allocation
    have hv' : (h.alloc m.uuid m.payload).view i = some m := by
      rw [← hv]
      apply Heap.view_congr
      · simp [Heap.alloc, List.getElem?_append_left (Heap.view_lt hv)]
      · intro a _; exact Heap.store_alloc h _ _ a
    have hj : (h.alloc m.uuid m.payload).refOf h.objs.length = some h.stores.length := by
      simp [Heap.refOf, Heap.alloc]
    simp only [hv', setEach_fresh _ _ _ _ hj, Option.map_some]
    rfl

/-- **tie**: the metadata `MarshalReply` writes (keys resolved to the constants' current values, "1"/"0" markers,
    the error text) is the model's `replyMeta`, for every handler error -/
theorem extracted_reply_meta_eq_model (err : Option String) :
    Gen.replyGlue.metaOf err = some (replyMeta err) := by
  cases err <;> rfl

/-- **tie**: the error `UnmarshalReply` reconstructs (which key is tested against which literal, which key holds
    the text) is the model's `replyErrOf`, for every metadata map -/
theorem extracted_reply_err_eq_model (md : Meta) : Gen.replyGlue.errOf md = replyErrOf md := rfl

/-- **tie**: all three CQRS marshalers store `m.Name(v)` under the model's `nameKey`, read the name back from the
    same key, build the message from the configured UUID generator and the encoded value, and decode `msg.Payload` -/
theorem extracted_cqrs_glue_eq_model :
    Gen.cqrsGlue.map (·.1) = ["json", "proto", "gogo"] ∧
    ∀ g ∈ Gen.cqrsGlue.map (·.2), g.setKey = nameKey ∧ g.getKey = nameKey ∧ g.setVal = "R.Name(A0)" ∧
      g.newMessage = "R.newUUID(), ENC" ∧ (g.decodes = "A0.Payload" ∨ g.decodes = "A0 | A0.Payload") := by
  simp [Gen.cqrsGlue, nameKey]

/-- **tie**: the envelope `newMessageEnvelope` fills is the model's (`newEnvelope`): destination topic from the
    argument, UUID / payload / metadata from the message, under the JSON tags of the model, for every input -/
theorem extracted_envelope_build_eq_model (dest : String) (m : Msg) :
    Gen.envGlue.build dest m = some ⟨dest, m.uuid, m.payload, m.metadata⟩ := by
  simp [Gen.envGlue, EnvGlue.build, lookupSrc, evalSrc]

/-- **tie**: the message and destination `unwrapMessageFromEnvelope` returns are the model's (`unwrap`), for every envelope -/
theorem extracted_envelope_unbuild_eq_model (e : Envelope) :
    Gen.envGlue.unbuild e = some (e.dest, ⟨e.uuid, e.payload, e.metadata⟩) := by
  simp [Gen.envGlue, EnvGlue.unbuild, strField]

/-- **tie**: shape of the envelope and of the code around it: the four JSON fields and their Go types; validation =
    "destination topic is empty", performed on wrap (before encoding) and on unwrap (between decoding and building);
    the wrapper is a fresh message carrying the encoded envelope; the decoder reads `msg.Payload`;
    `Publisher.Publish` wraps for the topic of the call and publishes to the configured forwarder topic,
    whose default is the model's -/
theorem extracted_envelope_shape_eq_model :
    Gen.envGlue.jsonFields = [("destination_topic", "string"), ("metadata", "map[string]string"),
                              ("payload", "[]byte"), ("uuid", "string")] ∧
    Gen.envGlue.validateRejects = ["R.DestinationTopic == \"\""] ∧
    Gen.envGlue.wrapValidates = true ∧ Gen.envGlue.unwrapValidates = true ∧
    Gen.envGlue.decodes = "A0.Payload, &E" ∧ Gen.envGlue.wrapperArgs = "watermill.NewUUID(), ENC" ∧
    Gen.envGlue.publisherWrapsFor = "A0" ∧ Gen.envGlue.publisherPublishesTo = "R.config.ForwarderTopic" ∧
    Gen.envGlue.defaultForwarderTopic = Value.defaultForwarderTopic :=
  ⟨rfl, rfl, rfl, rfl, rfl, rfl, rfl, rfl, rfl⟩

end Wm.Value.Go
