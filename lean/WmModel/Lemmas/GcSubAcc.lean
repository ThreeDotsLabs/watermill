import WmModel.Lemmas.GcSubCtl
namespace Wm.GcSub

/-- where the sender of publication `p` is: still waiting for the `sending` mutex, holding it, or ended -/
def Accounted (s : St) (p : Nat) : Prop :=
  p ∈ s.waiting ∨ (∃ pc c, s.holder = .sender p pc c) ∨ (∃ r, (p, r) ∈ s.exits)

/-- no sender goroutine is ever lost: every publication started so far is accounted for -/
def AccOk (s : St) : Prop := ∀ p, p < s.nextPub → Accounted s p

theorem acc_init (cap : Nat) : AccOk (init cap) := fun p hp => absurd hp (Nat.not_lt_zero p)

/-- nothing but the holder's program counter (or its copy index) changes -/
theorem acc_keep {s u : St} (h : AccOk s) (hn : u.nextPub = s.nextPub) (hw : u.waiting = s.waiting) (he : u.exits = s.exits)
    (hh : ∀ p, (∃ pc c, s.holder = .sender p pc c) → ∃ pc c, u.holder = .sender p pc c) : AccOk u := by
  intro p hp
  unfold Accounted
  rw [hw, he]
  exact (h p (hn ▸ hp)).imp_right (Or.imp_left (hh p))

/-- the holder's sender ends -/
theorem acc_exit {s : St} (h : AccOk s) {p c : Nat} {pc : SPc} (r : Exit) (hh : s.holder = .sender p pc c) :
    AccOk (exitSender s p r) := by
  intro p' hp'
  rcases h p' hp' with h1 | ⟨pc', c', h1⟩ | ⟨r', h1⟩
  · exact .inl h1
  · rw [hh] at h1; cases h1
    exact .inr (.inr ⟨r, List.mem_append_right _ (List.mem_singleton_self _)⟩)
  · exact .inr (.inr ⟨r', List.mem_append_left _ h1⟩)

theorem mem_eraseIdx_or {α : Type} (l : List α) (k : Nat) (x : α) (h : x ∈ l) : x ∈ l.eraseIdx k ∨ l[k]? = some x := by
  obtain ⟨i, hi⟩ := List.getElem?_of_mem h
  by_cases e : i = k
  · exact .inr (e ▸ hi)
  · exact .inl (List.mem_eraseIdx_iff_getElem?.mpr ⟨i, e, hi⟩)

theorem acc_step (s : St) (a : Action) (s' : St) (hc : CtlOk s) (h : AccOk s) (ha : act s a = some s') : AccOk s' := by
  cases step_of_act ha with
  | spawn =>
    intro p hp
    rcases Nat.lt_succ_iff_lt_or_eq.mp hp with hlt | rfl
    · exact (h p hlt).imp_left (List.mem_append_left _)
    · exact .inl (List.mem_append_right _ (List.mem_singleton_self _))
  | sLock hf hk =>
    intro p hp
    rcases h p hp with h1 | ⟨pc, c, h1⟩ | h1
    · -- the sender that gets the lock leaves the queue
      rcases mem_eraseIdx_or s.waiting _ p h1 with h2 | h2
      · exact .inl h2
      · rw [hk] at h2; cases h2
        exact .inr (.inl ⟨_, _, rfl⟩)
    · rw [hf] at h1; cases h1
    · exact .inr (.inr h1)
  | leave hh _ => exact acc_exit h _ hh
  | sCheck hh _ | sTop hh _ | sendDirect hh _ _ | sendBuf hh _ _ _ | sObsNack hh _ _ =>
    exact acc_keep h rfl rfl rfl (holder_pub_stays hh _ _)
  | tdLock _ hf => exact acc_keep h rfl rfl rfl (no_holder_pub (by rw [hf]; nofun))
  | tdClose htd _ =>
    -- the closer held the mutex: no sender did
    exact acc_keep h rfl rfl rfl (no_holder_pub (by rw [hc.2.2.2.2.1.mpr htd]; nofun))
  | _ => exact h

end Wm.GcSub
