import WmModel.Lemmas.GcRegStep
namespace Wm.GcReg

/-- `g.closing` is never re-opened and the configuration never changes -/
theorem closing_mono (s s' : St) (a : Action) (ha : act s a = some s') :
    (s.closingSig = true → s'.closingSig = true) ∧ s'.cfg = s.cfg := by
  cases step_of_act ha with
  | thread _ hm =>
    cases hm with
    | closeStart => exact ⟨fun _ => rfl, rfl⟩
    | _ => exact ⟨id, rfl⟩
  | _ => exact ⟨id, rfl⟩

end Wm.GcReg
