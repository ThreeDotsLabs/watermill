import WmModel.Lemmas.GcRegStep
import WmModel.Lemmas.ListIdx
namespace Wm.GcReg

variable {s u s' : St} {a : Action} {i : Nat} {old new : Th}

/-- upper bound on the steps a thread can still take (a Subscribe also pays for the unsubscribe goroutine it starts) -/
def rem : Th → Nat
  | .pub _ r .start _ => 6 + 2 * r.length
  | .pub _ r .rlock _ => 5 + 2 * r.length
  | .pub _ r .tlock _ => 4 + 2 * r.length
  | .pub _ r .persist _ => 3 + 2 * r.length
  | .pub _ r .send _ => 2 + 2 * r.length
  | .pub _ r (.wait _) _ => 3 + 2 * r.length
  | .pub _ _ .unlock _ => 1
  | .pub _ _ .retOk _ => 0
  | .pub _ _ .retErr _ => 0
  | .sub _ _ .start => 12
  | .sub _ _ .wqueue => 11
  | .sub _ _ .announce => 10
  | .sub _ _ .drain => 9
  | .sub _ _ .tlock => 8
  | .sub _ _ .register => 1
  | .sub _ _ .retOk => 0
  | .sub _ _ .retErr => 0
  | .td _ _ .idle => 6
  | .td _ _ .subClosed => 5
  | .td _ _ .announce => 4
  | .td _ _ .drain => 3
  | .td _ _ .tlock => 2
  | .td _ _ .remove => 1
  | .td _ _ .done => 0
  | .closer .start => 2
  | .closer .waitWg => 1
  | .closer .ret => 0

def phi (s : St) : Nat := (s.ths.map rem).sum

theorem phi_set (hold : s.ths[i]? = some old) (hths : u.ths = s.ths.set i new)
    (hd : rem new + 1 ≤ rem old) : phi u + 1 ≤ phi s := by
  have := sum_map_set rem s.ths i old new hold
  unfold phi; rw [hths]; omega

theorem phi_set_spawn {old new extra : Th} (hold : s.ths[i]? = some old)
    (hths : u.ths = s.ths.set i new ++ [extra]) (hd : rem new + rem extra + 1 ≤ rem old) : phi u + 1 ≤ phi s := by
  have := sum_map_set rem s.ths i old new hold
  unfold phi; rw [hths]; simp only [List.map_append, List.sum_append, List.map_cons, List.map_nil, List.sum_cons, List.sum_nil]; omega

theorem phi_append {c : Nat} (hths : u.ths = s.ths ++ [new]) (hc : rem new = c) :
    phi u ≤ phi s + c := by
  unfold phi; rw [hths, ← hc]; simp

/-- credit an environment action brings: the steps of the thread it creates -/
def credit : Action → Nat
  | .newPub _ msgs _ => 6 + 2 * msgs.length
  | .newSub _ => 12
  | .newClose => 2
  | _ => 0

def isStep : Action → Bool
  | .step _ => true
  | _ => false

/-- a thread step costs at least one unit: for a Publish both sides are `c + 2·|rest|` (the two `send` branches pay
    two units for the message they take off the batch), for the other threads plain numerals -/
theorem rem_lt {s s1 : St} (hm : ThStep s i old new s1) : rem new < rem old := by
  cases hm with
  | pubClosed => exact Nat.lt_add_right _ (Nat.le_of_ble_eq_true rfl)
  | pubStart | pubRlock | pubTlock | pubPersist | pubNoPersist | pubWait =>
    exact Nat.add_lt_add_right (by decide) _
  | pubPersistErr => exact Nat.lt_add_right _ (Nat.le_of_ble_eq_true rfl)
  | pubSendWait | pubSendNext => simp only [rem, List.length_cons]; omega
  | _ => exact Nat.le_of_ble_eq_true rfl

/-- every thread step lowers the potential – unless it is one of the panic branches (unreachable, `registry_never_panics`) -/
theorem phi_step {s s' : St} (hs : Step s (.step i) s') (hnp : s'.panicked = false) : phi s' + 1 ≤ phi s := by
  cases hs with
  | thread hth hm => exact phi_set hth rfl (rem_lt hm)
  | subTlock _ _ hth => exact phi_set_spawn hth rfl (Nat.le_refl 8)
  | panic => cases hnp

theorem phi_env (hs : Step s a s') (hp : isStep a = false) : phi s' ≤ phi s + credit a := by
  cases hs with
  | newPub | newPubNested | newSub | newClose => exact phi_append rfl rfl
  | cancel | senderDone => exact Nat.le_refl _
  | thread | subTlock | panic => cases hp

end Wm.GcReg
