import WmModel.Lemmas.GcRegLive
import WmModel.Lemmas.GcRegAux
import WmModel.Lemmas.GcRegTl
import WmModel.Lemmas.GcRegWg
/-
  `C11Ok`: the senders started for a subscription against the persisted log of its topic.  The invariant reads the
  thread table only through `viewAt` (topic and remaining batch of a Publish past its persist step), and every step
  that changes `started`, `log` or `subs` is taken by the holder of a topic mutex: `c11_view` reads the invariant as
  that thread sees it, `c11_holder_step` re-establishes it.
-/
namespace Wm.GcReg

variable {s s' : St} {a : Action} {i : Nat} {old new : Th} {l : List Th} {p : Bool}
  {subs subs' started started' log log' : List (Nat × Nat)}

/-- messages for which a sender goroutine was started on behalf of subscription `sid`, in start order -/
def sentTo (s : St) (sid : Nat) : List Nat := (s.started.filter (fun e => e.1 == sid)).map (·.2)
/-- persisted messages of topic `t`, in persist order -/
def logOf (s : St) (t : Nat) : List Nat := (s.log.filter (fun e => e.1 == t)).map (·.2)

def afterPersist : PPc → Bool
  | .send | .wait _ | .unlock => true
  | _ => false

/-- the second components of the pairs with first component `k`: `sentTo` and `logOf` are instances -/
def projL (l : List (Nat × Nat)) (k : Nat) : List Nat := (l.filter (fun e => e.1 == k)).map (·.2)

theorem sentTo_eq (s : St) (sid : Nat) : sentTo s sid = projL s.started sid := rfl
theorem logOf_eq (s : St) (t : Nat) : logOf s t = projL s.log t := rfl

theorem projL_append (a b : List (Nat × Nat)) (k : Nat) : projL (a ++ b) k = projL a k ++ projL b k := by
  simp [projL, List.filter_append]

/-- pairs with one and the same first component -/
theorem projL_map_const {α : Type} (l : List α) (f : α → Nat) (k k' : Nat) :
    projL (l.map (fun x => (k, f x))) k' = if k' = k then l.map f else [] := by
  unfold projL
  rw [List.filter_map, List.map_map]
  show (l.filter (fun _ => k == k')).map f = _
  cases h : k == k'
  · rw [List.filter_eq_nil_iff.mpr (fun _ _ => Bool.false_ne_true), if_neg (fun e => by rw [e, beq_self_eq_true] at h; cases h)]; rfl
  · rw [List.filter_eq_self.mpr (fun _ _ => rfl), if_pos (beq_iff_eq.mp h).symm]

theorem projL_pairs_self (l : List Nat) (t : Nat) : projL (l.map (fun m => (t, m))) t = l :=
  (projL_map_const l id t t).trans (by rw [if_pos rfl, List.map_id])

theorem projL_pairs_other (l : List Nat) (t t' : Nat) (h : t ≠ t') : projL (l.map (fun m => (t, m))) t' = [] :=
  (projL_map_const l id t t').trans (if_neg h.symm)

theorem projL_replay (l : List (Nat × Nat)) (t sid sid' : Nat) :
    projL ((l.filter (fun e => e.1 == t)).map (fun tm => (sid, tm.2))) sid' = if sid' = sid then projL l t else [] :=
  projL_map_const _ _ sid sid'

/-- the pairs `(sid', m)` for `sid'` ranging over a duplicate-free list contribute `m` exactly once to `sid`'s list
    if `sid` is in the list, nothing otherwise -/
theorem projL_snapshot (snap : List Nat) (m sid : Nat) (hnd : snap.Nodup) :
    projL (snap.map (fun x => (x, m))) sid = if sid ∈ snap then [m] else [] := by
  unfold projL
  rw [List.filter_map, List.map_map]
  show (snap.filter (· == sid)).map (fun _ => m) = _
  rw [List.filter_beq, hnd.count]
  split <;> rfl

/-- the subscriptions of one topic are told apart by their ids -/
theorem subsOf_nodup (s : St) (t : Nat) (h : s.subs.Nodup) : (subsOf s t).Nodup :=
  List.pairwise_map.mpr ((h.filter _).imp_of_mem fun ha hb hne he => hne (Prod.ext he
    ((beq_iff_eq.mp (List.mem_filter.mp ha).2).trans (beq_iff_eq.mp (List.mem_filter.mp hb).2).symm)))

theorem projL_nil_of_not_mem (l : List (Nat × Nat)) (k : Nat) (h : ∀ m, (k, m) ∉ l) : projL l k = [] := by
  rw [projL, List.map_eq_nil_iff, List.filter_eq_nil_iff]
  intro a ha hk
  exact h a.2 ((Prod.ext (beq_iff_eq.mp hk).symm rfl : (k, a.2) = a) ▸ ha)

/-- is a Publish thread past its persist step; carries topic and remaining batch -/
def afterP : Th → Option (Nat × List Nat)
  | .pub t r pc _ => if afterPersist pc then some (t, r) else none
  | _ => none

theorem afterP_eq_some {th : Th} {t : Nat} {r : List Nat} :
    afterP th = some (t, r) ↔ ∃ pc ao, th = Th.pub t r pc ao ∧ afterPersist pc = true := by
  cases th with
  | pub t' r' pc ao =>
    rw [afterP]
    cases hp : afterPersist pc
    · exact ⟨nofun, fun ⟨_, _, e, hp'⟩ => by cases e; rw [hp] at hp'; cases hp'⟩
    · exact ⟨fun e => by cases e; exact ⟨pc, ao, rfl, hp⟩, fun ⟨_, _, e, _⟩ => by cases e; rfl⟩
  | _ => exact ⟨nofun, fun ⟨_, _, e, _⟩ => by cases e⟩

/-- what thread `i` shows of a Publish past persist: `C11Ok` reads the thread table through this alone -/
def viewAt (l : List Th) (i : Nat) : Option (Nat × List Nat) := l[i]?.bind afterP

theorem viewAt_eq_some {t : Nat} {r : List Nat} :
    viewAt l i = some (t, r) ↔ ∃ pc ao, l[i]? = some (Th.pub t r pc ao) ∧ afterPersist pc = true := by
  rw [viewAt, Option.bind_eq_some_iff]
  exact ⟨fun ⟨_, hi, hv⟩ => by obtain ⟨pc, ao, rfl, hp⟩ := afterP_eq_some.mp hv; exact ⟨pc, ao, hi, hp⟩,
    fun ⟨pc, ao, hi, hp⟩ => ⟨_, hi, afterP_eq_some.mpr ⟨pc, ao, rfl, hp⟩⟩⟩

theorem viewAt_self (hold : l[i]? = some old) : viewAt l i = afterP old := by rw [viewAt, hold]; rfl

theorem viewAt_set (hold : l[i]? = some old) (j : Nat) :
    viewAt (l.set i new) j = if j = i then afterP new else viewAt l j := by
  unfold viewAt; split
  · next hji => rw [hji, List.getElem?_set_self (List.getElem?_eq_some_iff.mp hold).1]; rfl
  · next hji => rw [List.getElem?_set_ne (fun e => hji e.symm)]

theorem viewAt_append (hn : afterP new = none) (j : Nat) : viewAt (l ++ [new]) j = viewAt l j := by
  unfold viewAt
  cases hj : (l ++ [new])[j]? with
  | none => rw [List.getElem?_eq_none (Nat.le_trans (by simp) (List.getElem?_eq_none_iff.mp hj))]
  | some th =>
    rcases get_append_cases _ _ _ _ hj with ⟨_, hj'⟩ | ⟨hje, rfl⟩
    · rw [hj']
    · rw [List.getElem?_eq_none (Nat.le_of_eq hje.symm)]; exact hn

/-- a Publish thread at the release of the topic mutex has no message left -/
def batchDone : Th → Bool
  | .pub _ r .unlock _ => r.isEmpty
  | _ => true

def C11On (l : List Th) (persistent : Bool) (subs started log : List (Nat × Nat)) : Prop :=
  (∀ (i : Nat) (th : Th), l[i]? = some th → batchDone th = true) ∧
  (persistent = true →
    ∀ (sid t : Nat), (sid, t) ∈ subs →
      (∀ (i : Nat) (r : List Nat), viewAt l i = some (t, r) → projL started sid ++ r = projL log t) ∧
      ((∀ (i : Nat) (r : List Nat), viewAt l i ≠ some (t, r)) → projL started sid = projL log t))

/-- C11 on the registry model: what has been sent to a registered subscription (`sentTo`), plus the rest of the batch
    of a Publish on its topic that is past persist, is the persisted log of the topic (`logOf`) -/
def C11Ok (s : St) : Prop := C11On s.ths s.cfg.persistent s.subs s.started s.log

theorem c11_init (cfg : Cfg) : C11Ok (init cfg) := by simp [C11Ok, C11On, init]

/-- `started` and `log` unchanged, `subs` not larger; thread `i` keeps its view -/
theorem c11_set_frame (h : C11On l p subs started log) (hold : l[i]? = some old) (h1 : ∀ x, x ∈ subs' → x ∈ subs)
    (hv : afterP new = afterP old) (hu : batchDone new = true) : C11On (l.set i new) p subs' started log := by
  have e : viewAt (l.set i new) = viewAt l := funext fun j => by
    rw [viewAt_set hold]; split
    · next hji => rw [hji, hv, viewAt_self hold]
    · rfl
  exact ⟨forall_set h.1 _ _ hu, fun hp sid t hm => e ▸ h.2 hp sid t (h1 _ hm)⟩

theorem c11_append (h : C11On l p subs started log) (hn : afterP new = none) (hu : batchDone new = true) :
    C11On (l ++ [new]) p subs started log :=
  ⟨forall_append h.1 _ hu, (funext (viewAt_append hn) : viewAt (l ++ [new]) = viewAt l) ▸ h.2⟩

theorem holdsT_pub {t t' : Nat} {r : List Nat} {pc : PPc} {ao : Option (Nat × Nat)}
    (h : holdsT t (Th.pub t' r pc ao) = true) : t' = t := by
  cases pc <;> first | exact beq_iff_eq.mp h | cases h

/-- the thread that holds topic mutex `t` is the only one past persist on `t` -/
theorem holder_only {tl : List (Nat × Nat)} {t j : Nat} {th : Th} {r : List Nat}
    (htl : TlOn l tl) (hold : l[i]? = some th) (hh : holdsT t th = true) (hj : viewAt l j = some (t, r)) : j = i := by
  obtain ⟨pc, ao, hj, hp⟩ := viewAt_eq_some.mp hj
  have h2 : holdsT t (Th.pub t r pc ao) = true := by
    cases pc <;> first | exact beq_self_eq_true t | cases hp
  exact htl.2 t j i ((htl.1 t j).mpr ⟨_, hj, h2⟩) ((htl.1 t i).mpr ⟨_, hold, hh⟩)

/-- what a subscription of topic `t` has been sent so far, plus what the Publish inside the critical region of `t`
    still has to send (`v`, if there is such a Publish), is the log of `t` -/
def owes (v : Option (List Nat)) (sent log : List Nat) : Prop :=
  match v with
  | some r => sent ++ r = log
  | none => sent = log

/-- `C11Ok` read by the thread that holds the mutex of topic `t`: it is the only candidate for a Publish past persist -/
theorem c11_view {tl : List (Nat × Nat)} {t sid : Nat} {v : Option (List Nat)} (htl : TlOn l tl) (h : C11On l p subs started log)
    (hp : p = true) (hold : l[i]? = some old) (hh : holdsT t old = true)
    (hv : afterP old = v.map (Prod.mk t)) (hm : (sid, t) ∈ subs) : owes v (projL started sid) (projL log t) := by
  obtain ⟨ca, cb⟩ := h.2 hp sid t hm
  cases v with
  | some r => exact ca i r ((viewAt_self hold).trans hv)
  | none =>
    refine cb fun j r hj => ?_
    cases holder_only htl hold hh hj
    rw [viewAt_self hold, hv] at hj; cases hj

/-- … and re-established by it: thread `i`, holding the mutex of `t`, moves to `new` (view `v`); for the other topics
    nothing changes (`hother`), for its own the equation is shown for the new view (`hown`) -/
theorem c11_holder_step {tl : List (Nat × Nat)} {t : Nat} {v : Option (List Nat)} (htl : TlOn l tl) (h : C11On l p subs started log)
    (hold : l[i]? = some old) (hh : holdsT t old = true) (hv : afterP new = v.map (Prod.mk t)) (hu : batchDone new = true)
    (hother : p = true → ∀ sid t', t' ≠ t → (sid, t') ∈ subs' →
      (sid, t') ∈ subs ∧ projL started' sid = projL started sid ∧ projL log' t' = projL log t')
    (hown : p = true → ∀ sid, (sid, t) ∈ subs' → owes v (projL started' sid) (projL log' t)) :
    C11On (l.set i new) p subs' started' log' := by
  refine ⟨forall_set h.1 _ _ hu, fun hp sid t' hm => ?_⟩
  simp only [viewAt_set hold, hv]
  by_cases htt : t' = t
  · subst htt
    have ho := hown hp sid hm
    refine ⟨fun j r hj => ?_, fun hn => ?_⟩
    · split at hj
      · cases v with
        | none => cases hj
        | some r' => cases hj; exact ho
      · next hji => exact absurd (holder_only htl hold hh hj) hji
    · cases v with
      | none => exact ho
      | some r => exact absurd (if_pos rfl) (hn i r)
  · obtain ⟨hm', hs, hl⟩ := hother hp sid t' htt hm
    obtain ⟨ca, cb⟩ := h.2 hp sid t' hm'
    rw [hs, hl]
    refine ⟨fun j r hj => ca j r ?_, fun hn => cb fun j r hj => hn j r ?_⟩
    · split at hj
      · cases v with
        | none => cases hj
        | some r' => cases hj; exact absurd rfl htt
      · exact hj
    · split
      · next hji =>
        -- thread `i` holds the mutex of `t`, so it is not a Publish on `t'`
        rw [hji, viewAt_self hold] at hj
        obtain ⟨pc, ao, rfl, _⟩ := afterP_eq_some.mp hj
        exact absurd (holdsT_pub hh) htt
      · exact hj

/-- a registered subscription's unsubscribe goroutine is still live, hence the backlog has not been dropped -/
theorem backlog_kept (s : St) (hlive : LiveOk s) (hwg : WgOk s) (i t sid : Nat)
    (hold : s.ths[i]? = some (Th.sub t sid UPc.register)) : s.logNil = false := by
  obtain ⟨j, pc, hj, hpc⟩ := hlive.1 i t sid hold
  have hnd : needsDone (Th.td t sid pc) = true := by cases pc <;> simp [needsDone] at hpc ⊢
  have hpos := countP_pos_of_get needsDone _ _ _ hj hnd
  cases hx : s.logNil with
  | false => rfl
  | true =>
    have := hlive.2 hx
    unfold WgOk at hwg
    omega

/-- what the replay of a Subscribe adds: the log of its topic for its own subscription, nothing for the others -/
theorem projL_replay_append (started log : List (Nat × Nat)) (sid t : Nat) (c : Bool) (x : Nat) :
    projL (started ++ if c = true then (log.filter (fun e => e.1 == t)).map (fun tm => (sid, tm.2)) else []) x =
      projL started x ++ if x = sid then (if c = true then projL log t else []) else [] := by
  rw [projL_append]
  cases c
  · rw [if_neg Bool.false_ne_true, if_neg Bool.false_ne_true, ite_self]; rfl
  · rw [if_pos rfl, if_pos rfl, projL_replay]

theorem c11_step (htl : TlOk s) (haux : AuxOk s) (hlive : LiveOk s) (hwg : WgOk s)
    (h : C11Ok s) (hs : Step s a s') : C11Ok s' := by
  cases hs with
  | newPub | newPubNested | newSub | newClose => exact c11_append h rfl rfl
  | cancel | senderDone | panic => exact h
  | subTlock i t hth => exact c11_append (c11_set_frame h hth (fun _ hx => hx) rfl rfl) rfl rfl
  | thread hth hm =>
    cases hm with
    | @pubPersist t r ao =>
      -- the batch enters the log; nothing of it is sent yet
      refine c11_holder_step htl h hth (beq_self_eq_true t) (v := some r) rfl rfl
        (fun _ sid t' hne hm => ⟨hm, rfl, ?_⟩) (fun hp sid hm => ?_)
      · rw [projL_append, projL_pairs_other _ _ _ (Ne.symm hne), List.append_nil]
      · have hv : projL s.started sid = projL s.log t := c11_view htl h hp hth (beq_self_eq_true t) (v := none) rfl hm
        show projL s.started sid ++ r = _
        rw [projL_append, projL_pairs_self, hv]
    | pubNoPersist hnp =>
      -- not persistent: the second conjunct is vacuous, the first is not affected
      exact ⟨forall_set h.1 _ _ rfl, fun hp => absurd (hp.symm.trans hnp) nofun⟩
    | @pubSendWait t m r ao | @pubSendNext t m r ao =>
      -- `sendMessage` for the head of the batch: one sender per subscription registered for the topic right now
      have hs : ∀ sid, projL (s.started ++ (subsOf s t).map (fun sid => (sid, m))) sid =
          projL s.started sid ++ if (sid, t) ∈ s.subs then [m] else [] := by
        intro sid
        rw [projL_append, projL_snapshot _ _ _ (subsOf_nodup s t haux.2.2.2.2)]
        simp only [mem_subsOf]
      refine c11_holder_step htl h hth (beq_self_eq_true t) (v := some r) rfl rfl
        (fun _ sid t' hne hm => ⟨hm, ?_, rfl⟩) (fun hp sid hm => ?_)
      · exact (hs sid).trans (by rw [if_neg (fun hx => hne (haux.2.2.2.1 sid t' t hm hx)), List.append_nil])
      · have hv : projL s.started sid ++ m :: r = projL s.log t :=
          c11_view htl h hp hth (beq_self_eq_true t) (v := some (m :: r)) rfl hm
        exact ((congrArg (· ++ r) (hs sid)).trans (by rw [if_pos hm, List.append_assoc]; rfl)).trans hv
    | @pubUnlock t r ao =>
      -- the batch is sent (`r = []`): the Publish leaves the region
      cases List.isEmpty_iff.mp (h.1 _ _ hth)
      refine c11_holder_step htl h hth (beq_self_eq_true t) (v := none) rfl rfl
        (fun _ _ _ _ hm => ⟨hm, rfl, rfl⟩) (fun hp sid hm => ?_)
      have hv : projL s.started sid ++ [] = projL s.log t := c11_view htl h hp hth (beq_self_eq_true t) (v := some []) rfl hm
      exact (List.append_nil _).symm.trans hv
    | @subRegister t sid =>
      -- `addSubscriber` under the write lock and the topic mutex, after the replay of the backlog
      obtain ⟨f1, f2⟩ := haux.2.2.1 _ t sid hth
      have hnl := backlog_kept s hlive hwg _ _ _ hth
      refine c11_holder_step htl h hth (beq_self_eq_true t) (v := none) rfl rfl
        (fun _ sid' t' hne hm => ?_) (fun hp sid' hm => ?_) <;>
        rcases List.mem_append.mp hm with hm | hm
      · have hx : sid' ≠ sid := fun hx => f1 t' (hx ▸ hm)
        exact ⟨hm, (projL_replay_append _ _ _ _ _ sid').trans (by rw [if_neg hx, List.append_nil]), rfl⟩
      · cases List.mem_singleton.mp hm; exact absurd rfl hne
      · have hx : sid' ≠ sid := fun hx => f1 t (hx ▸ hm)
        have hv : projL s.started sid' = projL s.log t := c11_view htl h hp hth (beq_self_eq_true t) (v := none) rfl hm
        exact (projL_replay_append _ _ _ _ _ sid').trans (by rw [if_neg hx, List.append_nil]; exact hv)
      · cases List.mem_singleton.mp hm
        refine (projL_replay_append _ _ _ _ _ sid).trans ?_
        rw [if_pos rfl, hp, hnl, projL_nil_of_not_mem _ _ f2]; rfl
    | tdRemove => exact c11_set_frame h hth (fun _ hx => List.mem_of_mem_erase hx) rfl rfl
    | _ => exact c11_set_frame h hth (fun _ hx => hx) rfl rfl

end Wm.GcReg
