import WmModel.Lemmas.GcRegInv
namespace Wm.GcReg

variable {s s' : St} {a : Action} {i : Nat} {old new : Th} {l : List Th} {wq wq' : List Nat} {ann ann' : Option Nat}

/-- thread waits for the RWMutex's writer mutex -/
def atAnn : Th → Bool
  | .sub _ _ .announce | .td _ _ .announce => true
  | _ => false

def QOn (l : List Th) (wqueue : List Nat) (ann : Option Nat) : Prop :=
  (∀ (i : Nat) (th : Th), l[i]? = some th → atAnn th = true → i ∈ wqueue) ∧
  (∀ (k : Nat), ann = some k → ∃ th, l[k]? = some th ∧ holdsW th = true)

/-- the writer queue holds every thread that waits for the writer mutex; the announced writer is a thread inside the
    write path -/
def QOk (s : St) : Prop := QOn s.ths s.wqueue s.ann

theorem q_init (cfg : Cfg) : QOk (init cfg) := by simp [QOk, QOn, init]

theorem q_set (h : QOn l wq ann) (hold : l[i]? = some old)
    (hwq : ∀ j, j ≠ i → j ∈ wq → j ∈ wq') (hnew : atAnn new = true → i ∈ wq')
    (hann : ∀ k, ann' = some k → (k = i ∧ holdsW new = true) ∨ (k ≠ i ∧ ann = some k)) : QOn (l.set i new) wq' ann' := by
  obtain ⟨q1, q2⟩ := h
  refine ⟨fun j th hj ha => ?_, fun k hk => ?_⟩
  · rcases get_set_cases _ _ _ _ _ hj with ⟨hji, hth⟩ | ⟨hji, hj'⟩
    · subst hji; subst hth; exact hnew ha
    · exact hwq j hji (q1 j th hj' ha)
  · rcases hann k hk with ⟨hki, hw⟩ | ⟨hki, hs⟩
    · subst hki; exact ⟨new, List.getElem?_set_self (List.getElem?_eq_some_iff.mp hold).1, hw⟩
    · obtain ⟨th, hth, hw⟩ := q2 k hs
      exact ⟨th, set_get_of_ne _ _ _ _ _ hki hth, hw⟩

theorem q_not_ann (h : QOn l wq ann) (hold : l[i]? = some old) (ho : holdsW old = false) : ann ≠ some i := by
  intro hk
  have := (exists_get_iff hold (holdsW · = true)).mp (h.2 i hk)
  rw [ho] at this; cases this

theorem q_set_keep (h : QOn l wq ann) (hold : l[i]? = some old)
    (hnew : atAnn new = false) (hkeep : holdsW new = true ∨ holdsW old = false) : QOn (l.set i new) wq ann := by
  refine q_set h hold (fun j _ hj => hj) (fun ha => by rw [hnew] at ha; cases ha) (fun k hk => ?_)
  by_cases hki : k = i
  · subst hki
    exact Or.inl ⟨rfl, hkeep.resolve_right (fun ho => q_not_ann h hold ho hk)⟩
  · exact Or.inr ⟨hki, hk⟩

theorem q_append (h : QOn l wq ann) (hn : atAnn new = false) : QOn (l ++ [new]) wq ann :=
  ⟨forall_append h.1 _ (fun ha => by rw [hn] at ha; cases ha),
    fun k hk => (h.2 k hk).imp fun _ hth => ⟨append_get_of_get _ _ _ _ hth.1, hth.2⟩⟩

theorem q_step (h : QOk s) (hs : Step s a s') : QOk s' := by
  cases hs with
  | newPub | newPubNested | newSub | newClose => exact q_append h rfl
  | cancel | senderDone | panic => exact h
  | subTlock i t hth => exact q_append (q_set_keep h hth rfl (.inl rfl)) rfl
  | thread hth hm =>
    cases hm with
    | subWqueue | tdSubClosed =>
      exact q_set h hth (fun j _ hj => List.mem_append_left _ hj)
        (fun _ => List.mem_append_right _ (List.mem_singleton.mpr rfl))
        (fun k hk => .inr ⟨fun hki => q_not_ann h hth rfl (hki ▸ hk), hk⟩)
    | subAnnounce | tdAnnounce =>
      exact q_set h hth (fun j hji hj => (List.mem_erase_of_ne hji).mpr hj) nofun
        (fun k hk => .inl ⟨(Option.some.inj hk).symm, rfl⟩)
    | subRegister | tdRemove => exact q_set h hth (fun j _ hj => hj) nofun nofun
    | subDrain | tdDrain | tdTlock => exact q_set_keep h hth rfl (.inl rfl)
    | _ => exact q_set_keep h hth rfl (.inr rfl)

end Wm.GcReg
