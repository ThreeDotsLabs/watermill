/-
  C09 – Middlewares nest in registration order per handler; decorators apply in order.
  Property theorems.  Model: `WmModel/Chain.lean` (the loops of `handler.run`, `decorateHandlerPublisher`,
  `decorateHandlerSubscriber` as written, index loops included); what its functions compute: `Lemmas/Chain.lean`.
  Every statement quantifies over all registration lists / programs, all handler names, all ids – no bounds.
-/
import WmModel.Lemmas.Chain
namespace Wm.Chain

/-- publisher decorators, arbitrary functions: the result is `d₀ (d₁ (… (dₙ pub)))` – the decorator added first is
    the outermost, i.e. the first to see an outgoing message -/
theorem decoratePublisher_eq_compose (decs : List (α → α)) (pub : α) :
    decoratePublisher decs pub = decs.foldr (fun f a => f a) pub := by
  rw [decoratePublisher, loopDown_take decs _ (Nat.le_refl _), List.take_length]

/-- **the chain a handler runs is the composition of exactly the router-level middlewares and its own, in
    registration order, the earliest outermost** – for arbitrary middleware functions (not only recorders),
    any snapshot, any handler name, any handler function. -/
theorem wrap_eq_compose (name : String) (mws : List (Mw α)) (h : α) :
    wrap name mws h = ((mws.filter (applies name)).foldr (fun m a => m.fn a) h) := by
  rw [wrap, wrapLoop_eq_loopDown, ← List.length_map (fun m a => if applies name m then m.fn a else a)]
  -- this is `decoratePublisher` of that list
  exact (decoratePublisher_eq_compose ..).trans (List.foldr_map.trans List.foldr_filter.symm)

/-- **no publisher ⇒ not decorated**: a handler registered with a nil publisher keeps it, whatever decorators the router has;
    one with a publisher gets the composition above -/
theorem decorateHandlerPublisher_nil (decs : List (α → α)) :
    decorateHandlerPublisher decs (none : Option α) = none ∧
    ∀ pub : α, decorateHandlerPublisher decs (some pub) = some (decs.foldr (fun f a => f a) pub) :=
  ⟨rfl, fun pub => congrArg some (decoratePublisher_eq_compose decs pub)⟩

/-- subscriber decorators, arbitrary functions: the result is `dₙ (… (d₀ (ctx sub)))` – the context decorator is
    next to the original subscriber, then the decorator added first, …: incoming messages meet them in that order -/
theorem decorateSubscriber_eq_compose (c : α → α) (decs : List (α → α)) (sub : α) :
    decorateSubscriber c decs sub = decs.foldl (fun a f => f a) (c sub) :=
  loopUp_eq_foldl decs (c sub)

/-- ids of the registrations that apply to handler `h`, in registration order -/
def chainFor (regs : List Reg) (h : String) : List Nat :=
  (regs.filter fun r => r.isRouterLevel || r.handlerName == h).map (·.id)

/-- **chain_trace**: for every registration sequence and handler, the trace of one message is `enter` of the
    router-level + own middlewares in registration order, the handler, then `leave` in reverse order. -/
theorem chain_trace (regs : List Reg) (h : String) :
    chainTrace regs h =
      (chainFor regs h).map Ev.enter ++ [Ev.handler] ++ (chainFor regs h).reverse.map Ev.leave := by
  rw [chainTrace, wrap_eq_compose, List.filter_map, List.foldr_map, ← foldr_recMw, chainFor, List.foldr_map]
  rfl

example : chainTrace [⟨1, "", true⟩, ⟨2, "a", false⟩, ⟨3, "b", false⟩, ⟨4, "", true⟩, ⟨5, "a", false⟩] "a" =
    [.enter 1, .enter 2, .enter 4, .enter 5, .handler, .leave 5, .leave 4, .leave 2, .leave 1] := rfl

theorem mem_chainFor {regs : List Reg} {h : String} {i : Nat} :
    i ∈ chainFor regs h ↔ ∃ r ∈ regs, (r.isRouterLevel = true ∨ r.handlerName = h) ∧ r.id = i := by
  simp only [chainFor, List.mem_map, List.mem_filter, Bool.or_eq_true, beq_iff_eq, and_assoc]

/-- `enter i` occurs in the trace of handler `h` exactly when `i` is a router-level or `h`-level registration -/
theorem enter_mem_iff (regs : List Reg) (h : String) (i : Nat) :
    Ev.enter i ∈ chainTrace regs h ↔ i ∈ chainFor regs h := by
  rw [chain_trace]; simp

theorem leave_mem_iff (regs : List Reg) (h : String) (i : Nat) :
    Ev.leave i ∈ chainTrace regs h ↔ i ∈ chainFor regs h := by
  rw [chain_trace]; simp

/-- **every router-level middleware and every middleware of the handler itself runs** -/
theorem own_and_router_level_run (regs : List Reg) (h : String) (r : Reg) (hr : r ∈ regs)
    (ha : r.isRouterLevel = true ∨ r.handlerName = h) :
    Ev.enter r.id ∈ chainTrace regs h ∧ Ev.leave r.id ∈ chainTrace regs h :=
  have hm := mem_chainFor.mpr ⟨r, hr, ha, rfl⟩
  ⟨(enter_mem_iff ..).mpr hm, (leave_mem_iff ..).mpr hm⟩

/-- **never another handler's**: a middleware registered for a different handler (its id not reused by an
    applicable registration) neither enters nor leaves in this handler's trace. -/
theorem no_foreign_middleware (regs : List Reg) (h : String) (r : Reg)
    (hnr : r.isRouterLevel = false) (hne : r.handlerName ≠ h)
    (huniq : ∀ r' ∈ regs, r'.id = r.id → r' = r) :
    Ev.enter r.id ∉ chainTrace regs h ∧ Ev.leave r.id ∉ chainTrace regs h := by
  have key : r.id ∉ chainFor regs h := fun hm => by
    obtain ⟨r', hr', ha, hid⟩ := mem_chainFor.mp hm
    cases huniq r' hr' hid
    exact ha.elim (fun ha => Bool.false_ne_true (hnr ▸ ha)) hne
  exact ⟨mt (enter_mem_iff ..).mp key, mt (leave_mem_iff ..).mp key⟩

example : Ev.enter 3 ∉ chainTrace [⟨1, "", true⟩, ⟨2, "a", false⟩, ⟨3, "b", false⟩] "a" := by decide
example : Ev.enter 3 ∈ chainTrace [⟨1, "", true⟩, ⟨2, "a", false⟩, ⟨3, "b", false⟩] "b" := by decide

/-- **publisher decorators act on an outgoing message in the order they were added**, then the real publisher gets it -/
theorem pub_decorators_in_order (pd : List Nat) : pubTrace pd = pd.map Ev.pub ++ [Ev.published] := by
  rw [pubTrace, decoratePublisher_eq_compose, List.foldr_map]
  induction pd with
  | nil => rfl
  | cons i rest ih => exact congrArg (Ev.pub i :: ·) ih

/-- **every publisher decorator acts on every outgoing message**: a `Publish` call with `n` messages (any objects, any
    UUIDs – equal, empty) shows each decorator, in the order added, all `n` of them, then the publisher gets all `n` -/
theorem pub_decorators_in_order_n (n : Nat) (pd : List Nat) :
    pubTraceN n pd = pd.flatMap (fun i => List.replicate n (Ev.pub i)) ++ List.replicate n Ev.published := by
  rw [pubTraceN, decoratePublisher_eq_compose, List.foldr_map]
  induction pd with
  | nil => rfl
  | cons i rest ih =>
    rw [List.foldr_cons, ih, List.flatMap_cons, List.append_assoc]
    rfl

/-- a `Publish` call with one message: `recPubN 1` is `recPub` -/
theorem pubTraceN_one (pd : List Nat) : pubTraceN 1 pd = pubTrace pd := rfl

/-- **subscriber decorators act on an incoming message in the order they were added**, each exactly once, each after
    the router's context decorator (so each already sees the handler context) – also when the handler was given an
    application-decorated subscriber object (whose own transform acts first, before the router's decorators) -/
theorem sub_decorators_in_order_from (app : Option Nat) (sd : List Nat) :
    subTraceFrom app sd = (appSub app).1 ++ sd.map (fun i => Ev.sub i true) := by
  rw [subTraceFrom, decorateSubscriber, ctxDec, loopUp_recSub]

theorem sub_decorators_in_order (sd : List Nat) : subTrace sd = sd.map (fun i => Ev.sub i true) :=
  sub_decorators_in_order_from none sd

example : pubTrace [7, 3, 9] = [.pub 7, .pub 3, .pub 9, .published] := rfl
example : pubTraceN 2 [7, 3] = [.pub 7, .pub 7, .pub 3, .pub 3, .published, .published] := rfl
example : subTrace [7, 3, 9] = [.sub 7 true, .sub 3 true, .sub 9 true] := rfl
example : subTraceFrom (some 4) [7, 3] = [.app 4, .sub 7 true, .sub 3 true] := rfl

/-- what the property demands of one message in handler `name` (a specification, no loops):
    (the application's own subscriber transform, if any,) subscriber decorators in order, `enter` of the applicable
    registrations in order, handler, `leave` reversed, publisher decorators in order and the publisher (if the handler
    has one and returned a message). -/
def specTrace (regs : List Reg) (pd sd : List Nat) (name : String) (outs : Nat) (app : Option Nat := none) : List Ev :=
  (appSub app).1 ++ sd.map (fun i => Ev.sub i true) ++
  ((chainFor regs name).map Ev.enter ++ [Ev.handler] ++ (chainFor regs name).reverse.map Ev.leave) ++
  (pd.flatMap (fun i => List.replicate outs (Ev.pub i)) ++ List.replicate outs Ev.published)

/-- the model's whole per-message trace is the specification -/
theorem msg_trace_spec (regs : List Reg) (pd sd : List Nat) (name : String) (outs : Nat) (app : Option Nat) :
    msgTrace regs pd sd name outs app = specTrace regs pd sd name outs app := by
  rw [msgTrace, specTrace, sub_decorators_in_order_from, chain_trace, pub_decorators_in_order_n]

/-! ### concurrent registration: whatever order the lock serialises overlapping `Handler.AddMiddleware` calls in -/

/-- **every registered middleware is in the chain exactly once, whatever the linearisation**: if `regs'` is any
    reordering of the same registrations, handler `h` runs the same middlewares with the same multiplicities -/
theorem chain_perm_invariant (regs regs' : List Reg) (h : String) (hp : regs'.Perm regs) :
    (chainFor regs' h).Perm (chainFor regs h) := by
  unfold chainFor
  exact (hp.filter _).map _

/-- **order within one goroutine is preserved**: the registrations `g` one caller made in sequence appear in the chain
    in that order (as a subsequence), wherever the other callers' registrations landed in between -/
theorem chain_sublist (g regs : List Reg) (h : String) (hs : g.Sublist regs) :
    (chainFor g h).Sublist (chainFor regs h) := by
  unfold chainFor
  exact (hs.filter _).map _

example : (chainFor [⟨4, "a", false⟩, ⟨1, "a", false⟩, ⟨5, "b", false⟩, ⟨2, "a", false⟩] "a").Perm
    (chainFor [⟨1, "a", false⟩, ⟨2, "a", false⟩, ⟨4, "a", false⟩, ⟨5, "b", false⟩] "a") := by decide

/-! ### registration programs: plugins loaded by Run, snapshot at start, handlers started later by RunHandlers -/

/-- what a program registers, in order – the registrations of a plugin count at the moment `Run` executes it:
    `ran` = Run has already happened, `pl` = the plugins added so far -/
def progR3 : Bool → List (List POp) → List Op → R3
  | _, _, [] => {}
  | ran, pl, .routerMw ids :: r => R3.app ⟨ids.map fun i => ⟨i, "", true⟩, [], []⟩ (progR3 ran pl r)
  | ran, pl, .handlerMw h ids :: r => R3.app ⟨ids.map fun i => ⟨i, h, false⟩, [], []⟩ (progR3 ran pl r)
  | ran, pl, .pubDec ids :: r => R3.app ⟨[], ids, []⟩ (progR3 ran pl r)
  | ran, pl, .subDec ids :: r => R3.app ⟨[], [], ids⟩ (progR3 ran pl r)
  | ran, pl, .addHandler _ _ _ :: r => progR3 ran pl r
  | ran, pl, .plugin ps :: r => progR3 ran (pl ++ [ps]) r
  | ran, pl, .callerEdits :: r => progR3 ran pl r
  | ran, pl, .stopAgain :: r => progR3 ran pl r
  | ran, pl, .stopHandler _ :: r => progR3 ran pl r
  | false, pl, .run :: r => (pluginR3 pl).app (progR3 true pl r)
  | true, pl, .run :: r => progR3 true pl r

/-- one operation, as far as the registrations go: what the program registers from here on is what this operation
    registers followed by what the rest registers from the next state on -/
theorem step_regs {s s' : St} {o : Op} (h : step s o = some s') (rest : List Op) :
    s.r3.app (progR3 s.ran s.plugins (o :: rest)) = s'.r3.app (progR3 s'.ran s'.plugins rest) := by
  cases o <;> simp only [step] at h
  case run =>
    cases h
    show _ = (loadPlugins s).r3.app (progR3 (loadPlugins s).ran (loadPlugins s).plugins rest)
    rw [loadPlugins_r3, loadPlugins_ran, loadPlugins_plugins, R3.app_assoc]
    cases s.ran <;> simp only [progR3, R3.nil_app, Bool.false_eq_true, if_false, if_true]
  case handlerMw g ids => split at h <;> cases h; simp only [progR3, St.r3, R3.app, List.nil_append, List.append_assoc]
  case routerMw ids | pubDec ids | subDec ids =>
    cases h; simp only [progR3, St.r3, R3.app, List.nil_append, List.append_assoc]
  -- the other operations register nothing
  all_goals (try split at h) <;> cases h <;> rfl

/-- the registration lists after a program are what the program registers, in program order; plugins are executed by
    the first `run` (= `Run`), before it starts any handler, and never again -/
theorem exec_regs (s s' : St) (p : List Op) (h : exec s p = some s') :
    s'.r3 = s.r3.app (progR3 s.ran s.plugins p) := by
  induction p generalizing s with
  | nil => cases h; exact (R3.app_nil _).symm
  | cons o rest ih =>
    obtain ⟨s2, hs, h⟩ := exec_cons_some h
    rw [ih s2 h, step_regs hs]

/-- what `run` finds loaded after a program: the program's registrations, and the plugins' if this `run` is `Run` -/
theorem loadPlugins_after {pre : List Op} {s1 : St} (h1 : exec {} pre = some s1) :
    (loadPlugins s1).r3 = (progR3 false [] pre).app (if s1.ran then {} else pluginR3 s1.plugins) := by
  rw [loadPlugins_r3, exec_regs {} s1 pre h1]
  exact congrArg (R3.app · _) (R3.nil_app _)

/-- **snapshot**: once a handler is started its per-message trace never changes, whatever is registered, added, started
    or stopped later – as long as it is not stopped itself – and every observation block `ex` the program appends
    reports exactly that trace for it -/
theorem frozen {s s' : St} {p : List Op} (h : exec s p = some s') {x : HSt} (hx : x ∈ s.hs)
    {t : List Ev} (ht : x.trace = some t) (hno : ∀ o ∈ p, o ≠ .stopHandler x.name) :
    x ∈ s'.hs ∧ ∃ ex, s'.obs = s.obs ++ ex ∧ ∀ b ∈ ex, (x.name, t) ∈ b := by
  induction p generalizing s with
  | nil => cases h; exact ⟨hx, [], (List.append_nil _).symm, List.forall_mem_nil _⟩
  | cons o rest ih =>
    obtain ⟨s2, hs, h⟩ := exec_cons_some h
    have ⟨ho, hrest⟩ := List.forall_mem_cons.mp hno
    obtain ⟨hx2, e1, hobs1, he1⟩ := step_frozen hs hx ht ho
    obtain ⟨hx', ex, hobs, hex⟩ := ih h hx2 hrest
    exact ⟨hx', e1 ++ ex, by rw [hobs, hobs1, List.append_assoc], List.forall_mem_append.mpr ⟨he1, hex⟩⟩

/-- the same, the later blocks being those past the observations made so far -/
theorem started_frozen (s s' : St) (p : List Op) (h : exec s p = some s') (x : HSt) (hx : x ∈ s.hs)
    (t : List Ev) (ht : x.trace = some t) (hno : ∀ o ∈ p, o ≠ .stopHandler x.name) :
    x ∈ s'.hs ∧ ∀ b ∈ s'.obs.drop s.obs.length, (x.name, t) ∈ b := by
  obtain ⟨hx', ex, hobs, hex⟩ := frozen h hx ht hno
  rw [hobs, List.drop_left]
  exact ⟨hx', hex⟩

/-- **program_chain_trace**: for every registration program `pre ++ run :: post` – any interleaving of router-level
    and handler-level `AddMiddleware`, `AddHandler` (raw or application-decorated subscriber), `AddPlugin`, decorator
    registrations and earlier `run`s in `pre`, anything in `post` – a handler that is added but not yet started when that
    `run` happens is started by it and from then on every message does exactly: (the application's subscriber transform,)
    subscriber decorators in order; `enter` of the router-level + own middlewares in registration order; the handler;
    `leave` in reverse; publisher decorators in order – where the registrations are those of `pre` followed, when this
    `run` is `Run` itself, by what the plugins register (plugins are executed BEFORE the handlers are started).
    Registrations in `post` do not reach it, nor do other handlers stopping or being added (a handler added after another
    one stopped is a handler of its own: it gets no other handler's middlewares and gives none away); the observation of
    that `run` and of every later one reports that trace, as long as the handler is not stopped itself. -/
theorem program_chain_trace (pre post : List Op) (s1 s : St) (x : HSt)
    (h1 : exec {} pre = some s1) (hx : x ∈ s1.hs) (hns : x.trace = none)
    (h2 : exec s1 (.run :: post) = some s) (hno : ∀ o ∈ post, o ≠ .stopHandler x.name) :
    let r := (progR3 false [] pre).app (if s1.ran then {} else pluginR3 s1.plugins)
    let t := specTrace r.regs r.pd r.sd x.name x.outs x.app
    (⟨x.name, x.outs, x.app, some t⟩ : HSt) ∈ s.hs ∧ ∀ b ∈ s.obs.drop s1.obs.length, (x.name, t) ∈ b := by
  intro r t
  have hr : r = (loadPlugins s1).r3 := (loadPlugins_after h1).symm
  clear_value r
  subst hr
  obtain ⟨s2, hs, hpost⟩ := exec_cons_some h2
  -- this `run` starts `x`, with the trace the registrations loaded by now give; from then on it is frozen
  have hx2 : (⟨x.name, x.outs, x.app, some t⟩ : HSt) ∈ s2.hs := by
    cases hs
    refine List.mem_map.mpr ⟨x, loadPlugins_hs s1 ▸ hx, ?_⟩
    simp only [startH, hns, msg_trace_spec]
    rfl
  have hobs2 : s2.obs = s1.obs ++ [block s2.hs] := by cases hs; exact congrArg (· ++ _) (loadPlugins_obs s1)
  obtain ⟨hx', ex, hobs, hex⟩ := frozen hpost hx2 rfl hno
  refine ⟨hx', ?_⟩
  rw [hobs, hobs2, List.append_assoc, List.drop_left]
  exact List.forall_mem_cons.mpr ⟨(mem_block hx2 rfl :), hex⟩

/-- **the router's lists are value copies**: whatever the application does afterwards to the slices it passed to
    `AddMiddleware(ms...)`, `handler.AddMiddleware(ms...)`, `AddPublisherDecorators(ds...)`, `AddSubscriberDecorators(ds...)`
    – element assignment, `append` on spare capacity, handing them to a second router – is invisible to the router:
    removing all such edits from a program changes neither its final state nor any observation -/
theorem caller_edits_invisible (s : St) (p : List Op) :
    exec s p = exec s (p.filter (· ≠ .callerEdits)) := by
  induction p generalizing s with
  | nil => rfl
  | cons o rest ih =>
    by_cases ho : o = .callerEdits
    · subst ho; exact ih s
    · rw [List.filter_cons_of_pos (by simpa using ho), exec_cons, exec_cons]
      exact congrArg _ (funext ih)

example : (exec {} [.pubDec [1, 2], .callerEdits, .addHandler "a" 1 none, .subDec [3], .callerEdits, .run]).map (·.obs) =
    some [[("a", [.sub 3 true, .handler, .pub 1, .pub 2, .published])]] := rfl

/-- **plugins act on every handler added before Run**: when `Run` happens (no earlier `run` in the program), whatever
    the plugins added so far register is part of the registrations the handlers started by it get – appended, in plugin
    order, after everything registered directly before `Run` -/
theorem plugins_loaded_before_handlers_start (pre : List Op) (s1 : St) (h1 : exec {} pre = some s1) (hnr : s1.ran = false) :
    (loadPlugins s1).r3 = (progR3 false [] pre).app (pluginR3 s1.plugins) := by
  rw [loadPlugins_after h1, hnr]
  rfl

/-- non-vacuity: router-level and handler-level registrations before `run`, a second handler added after it with
    registrations of its own, then `RunHandlers`; the first handler keeps its snapshot -/
example : (exec {} [.routerMw [1], .addHandler "a" 1 none, .handlerMw "a" [2], .pubDec [7], .run,
                    .routerMw [3], .addHandler "b" 0 none, .handlerMw "b" [4], .handlerMw "a" [5], .subDec [8], .run]).map (·.obs) =
    some [[("a", [.enter 1, .enter 2, .handler, .leave 2, .leave 1, .pub 7, .published])],
          [("a", [.enter 1, .enter 2, .handler, .leave 2, .leave 1, .pub 7, .published]),
           ("b", [.sub 8 true, .enter 1, .enter 3, .enter 4, .handler, .leave 4, .leave 3, .leave 1])]] := rfl

/-- non-vacuity: a plugin registering a middleware, a publisher and a subscriber decorator; two handlers sharing the
    application-decorated subscriber 4, both added before `Run`; a plugin added after `Run` never acts -/
example : (exec {} [.plugin [.routerMw [9], .pubDec [7], .subDec [8]], .addHandler "a" 1 (some 4), .routerMw [1],
                    .addHandler "b" 0 (some 4), .run, .plugin [.routerMw [5]], .addHandler "c" 0 none, .run]).map (·.obs) =
    some [[("a", [.app 4, .sub 8 true, .enter 1, .enter 9, .handler, .leave 9, .leave 1, .pub 7, .published]),
           ("b", [.app 4, .sub 8 true, .enter 1, .enter 9, .handler, .leave 9, .leave 1])],
          [("a", [.app 4, .sub 8 true, .enter 1, .enter 9, .handler, .leave 9, .leave 1, .pub 7, .published]),
           ("b", [.app 4, .sub 8 true, .enter 1, .enter 9, .handler, .leave 9, .leave 1]),
           ("c", [.sub 8 true, .enter 1, .enter 9, .handler, .leave 9, .leave 1])]] := rfl

/-- non-vacuity: handlers a and b with middlewares of their own are running, a is stopped, c is added afterwards with
    its own middleware: b keeps its chain, c runs router-level + its own – none of b's, none of a's -/
example : (exec {} [.routerMw [1], .addHandler "a" 1 none, .handlerMw "a" [2], .addHandler "b" 0 none, .handlerMw "b" [3],
                    .run, .stopHandler "a", .addHandler "c" 0 none, .handlerMw "c" [4], .run]).map (·.obs) =
    some [[("a", [.enter 1, .enter 2, .handler, .leave 2, .leave 1, .published]),
           ("b", [.enter 1, .enter 3, .handler, .leave 3, .leave 1])],
          [("b", [.enter 1, .enter 3, .handler, .leave 3, .leave 1]),
           ("c", [.enter 1, .enter 4, .handler, .leave 4, .leave 1])]] := rfl

end Wm.Chain
