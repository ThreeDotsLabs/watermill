import WmModel.GcReg
/-
  One step of M_reg as a relation.  `act` is taken apart once, here: `step_of_act` turns `act s a = some s'` into
  `Step s a s'`, whose constructors name the enabled branches, give each guard as a plain fact about `s` and the
  post-state as the record update the model writes.  Every invariant proof is a `cases` on it.
-/
namespace Wm.GcReg

/-- Thread `i` moves from `old` to `new` while the other fields go from `s` to `s1` (whose thread table is still that
    of `s`).  All steps of a thread are of this kind except Subscribe's `tlock`, which also starts a goroutine, and the
    two panics of `removeSubscriber`. -/
inductive ThStep (s : St) (i : Nat) : Th → Th → St → Prop
  | pubClosed {t r ao} : s.closedLock = none → s.closed = true →
      ThStep s i (.pub t r .start ao) (.pub t r .retErr ao) s
  | pubStart {t r ao} : s.closedLock = none → s.closed = false →
      ThStep s i (.pub t r .start ao) (.pub t r .rlock ao) s
  | pubRlock {t r ao} : s.ann = none →
      ThStep s i (.pub t r .rlock ao) (.pub t r .tlock ao) { s with readers := i :: s.readers }
  | pubTlock {t r ao} : tlockFree s t = true →
      ThStep s i (.pub t r .tlock ao) (.pub t r .persist ao) { s with tlocks := (t, i) :: s.tlocks }
  | pubPersistErr {t r ao} : s.cfg.persistent = true → s.logNil = true →
      ThStep s i (.pub t r .persist ao) (.pub t r .retErr ao)
        { s with tlocks := s.tlocks.filter (· != (t, i)), readers := s.readers.erase i }
  | pubPersist {t r ao} : s.cfg.persistent = true → s.logNil = false →
      ThStep s i (.pub t r .persist ao) (.pub t r .send ao) { s with log := s.log ++ r.map (fun m => (t, m)) }
  | pubNoPersist {t r ao} : s.cfg.persistent = false →
      ThStep s i (.pub t r .persist ao) (.pub t r .send ao) s
  | pubSendDone {t ao} : ThStep s i (.pub t [] .send ao) (.pub t [] .unlock ao) s
  | pubSendWait {t m r ao} : s.cfg.blocking = true →
      ThStep s i (.pub t (m :: r) .send ao) (.pub t r (.wait s.disp.length) ao)
        { s with disp := s.disp ++ [subsOf s t], started := s.started ++ (subsOf s t).map (fun sid => (sid, m)) }
  | pubSendNext {t m r ao} : s.cfg.blocking = false →
      ThStep s i (.pub t (m :: r) .send ao) (.pub t r .send ao)
        { s with disp := s.disp ++ [subsOf s t], started := s.started ++ (subsOf s t).map (fun sid => (sid, m)) }
  | pubWait {t r d ao} : s.disp[d]?.getD [] = [] ∨ s.closingSig = true →
      ThStep s i (.pub t r (.wait d) ao) (.pub t r .send ao) s
  | pubUnlock {t r ao} :
      ThStep s i (.pub t r .unlock ao) (.pub t r .retOk ao)
        { s with tlocks := s.tlocks.filter (· != (t, i)), readers := s.readers.erase i,
                 reserved := match ao with
                   | some p => s.reserved.erase p
                   | none => s.reserved }
  | subClosed {t sid} : s.closedLock = none → s.closed = true →
      ThStep s i (.sub t sid .start) (.sub t sid .retErr) s
  | subStart {t sid} : s.closedLock = none → s.closed = false →
      ThStep s i (.sub t sid .start) (.sub t sid .wqueue) { s with wg := s.wg + 1 }
  | subWqueue {t sid} :
      ThStep s i (.sub t sid .wqueue) (.sub t sid .announce) { s with wqueue := s.wqueue ++ [i] }
  | subAnnounce {t sid} : s.ann = none → i ∈ s.wqueue →
      ThStep s i (.sub t sid .announce) (.sub t sid .drain) { s with ann := some i, wqueue := s.wqueue.erase i }
  | subDrain {t sid} : s.readers = [] → s.ann = some i →
      ThStep s i (.sub t sid .drain) (.sub t sid .tlock) { s with annHeld := true }
  | subRegister {t sid} :
      ThStep s i (.sub t sid .register) (.sub t sid .retOk)
        { s with subs := s.subs ++ [(sid, t)],
                 started := s.started ++ (if s.cfg.persistent && !s.logNil then
                   (s.log.filter (·.1 == t)).map (fun tm => (sid, tm.2)) else []),
                 tlocks := s.tlocks.filter (· != (t, i)), ann := none, annHeld := false }
  | tdIdle {t sid} : sid ∈ s.cancelled ∨ s.closingSig = true →
      ThStep s i (.td t sid .idle) (.td t sid .subClosed) s
  | tdSubClosed {t sid} :
      ThStep s i (.td t sid .subClosed) (.td t sid .announce) { s with wqueue := s.wqueue ++ [i] }
  | tdAnnounce {t sid} : s.ann = none → i ∈ s.wqueue →
      ThStep s i (.td t sid .announce) (.td t sid .drain) { s with ann := some i, wqueue := s.wqueue.erase i }
  | tdDrain {t sid} : s.readers = [] → s.ann = some i →
      ThStep s i (.td t sid .drain) (.td t sid .tlock) { s with annHeld := true }
  | tdTlock {t sid} : tlockFree s t = true →
      ThStep s i (.td t sid .tlock) (.td t sid .remove) { s with tlocks := (t, i) :: s.tlocks }
  | tdRemove {t sid} : (sid, t) ∈ s.subs → s.wg ≠ 0 →
      ThStep s i (.td t sid .remove) (.td t sid .done)
        { s with subs := s.subs.erase (sid, t), wg := s.wg - 1,
                 tlocks := s.tlocks.filter (· != (t, i)), ann := none, annHeld := false }
  | closeAgain : s.closedLock = none → s.closed = true →
      ThStep s i (.closer .start) (.closer .ret) s
  | closeStart : s.closedLock = none → s.closed = false →
      ThStep s i (.closer .start) (.closer .waitWg) { s with closedLock := some i, closed := true, closingSig := true }
  | closeWait : s.wg = 0 →
      ThStep s i (.closer .waitWg) (.closer .ret) { s with logNil := true, closedLock := none }

inductive Step : St → Action → St → Prop
  | newPub {s t msgs} : Step s (.newPub t msgs none) { s with ths := s.ths ++ [.pub t msgs .start none] }
  | newPubNested {s t msgs d sid} : sid ∈ s.disp[d]?.getD [] → (d, sid) ∉ s.reserved →
      Step s (.newPub t msgs (some (d, sid)))
        { s with ths := s.ths ++ [.pub t msgs .start (some (d, sid))], reserved := (d, sid) :: s.reserved }
  | newSub {s t} : Step s (.newSub t) { s with ths := s.ths ++ [.sub t 0 .start] }
  | newClose {s} : Step s .newClose { s with ths := s.ths ++ [.closer .start] }
  | cancel {s sid} : Step s (.cancel sid) { s with cancelled := sid :: s.cancelled }
  | senderDone {s d sid} : sid ∈ s.disp[d]?.getD [] → (d, sid) ∉ s.reserved →
      Step s (.senderDone d sid) (finishSender s d sid)
  | thread {s i old new s1} : s.ths[i]? = some old → ThStep s i old new s1 →
      Step s (.step i) { s1 with ths := s.ths.set i new }
  | subTlock {s} (i t : Nat) {sid} : s.ths[i]? = some (.sub t sid .tlock) → tlockFree s t = true →
      Step s (.step i)
        { s with tlocks := (t, i) :: s.tlocks, nextSid := s.nextSid + 1,
                 ths := s.ths.set i (.sub t s.nextSid .register) ++ [.td t s.nextSid .idle] }
  | panic {s i t sid} : s.ths[i]? = some (.td t sid .remove) → ((sid, t) ∈ s.subs → s.wg = 0) →
      Step s (.step i) { s with panicked := true }

theorem step_of_stepPub {s s' : St} {i t : Nat} {r : List Nat} {pc : PPc} {ao : Option (Nat × Nat)}
    (hth : s.ths[i]? = some (.pub t r pc ao)) (ha : stepPub s i t r pc ao = some s') : Step s (.step i) s' := by
  cases pc <;> simp only [stepPub] at ha
  case start =>
    split at ha
    · cases ha
    · rename_i hl
      split at ha <;> rename_i hc <;> obtain rfl := Option.some.inj ha
      · exact .thread hth (.pubClosed (by simpa using hl) hc)
      · exact .thread hth (.pubStart (by simpa using hl) (by simpa using hc))
  case rlock =>
    split at ha
    · cases ha
    · rename_i hn; obtain rfl := Option.some.inj ha; exact .thread hth (.pubRlock (by simpa using hn))
  case tlock =>
    split at ha
    · rename_i hf; obtain rfl := Option.some.inj ha; exact .thread hth (.pubTlock hf)
    · cases ha
  case persist =>
    split at ha
    · rename_i hp
      split at ha <;> rename_i hl <;> obtain rfl := Option.some.inj ha
      · exact .thread hth (.pubPersistErr hp hl)
      · exact .thread hth (.pubPersist hp (by simpa using hl))
    · rename_i hp; obtain rfl := Option.some.inj ha; exact .thread hth (.pubNoPersist (by simpa using hp))
  case send =>
    split at ha
    · obtain rfl := Option.some.inj ha; exact .thread hth .pubSendDone
    · split at ha <;> rename_i hb <;> obtain rfl := Option.some.inj ha
      · exact .thread hth (.pubSendWait hb)
      · exact .thread hth (.pubSendNext (by simpa using hb))
  case wait d =>
    split at ha
    · rename_i hw; obtain rfl := Option.some.inj ha; exact .thread hth (.pubWait (by simpa using hw))
    · cases ha
  case unlock =>
    obtain rfl := Option.some.inj ha
    cases ao <;> exact .thread hth .pubUnlock
  case retOk => cases ha
  case retErr => cases ha

theorem step_of_stepSub {s s' : St} {i t sid : Nat} {pc : UPc}
    (hth : s.ths[i]? = some (.sub t sid pc)) (ha : stepSub s i t sid pc = some s') : Step s (.step i) s' := by
  cases pc <;> simp only [stepSub] at ha
  case start =>
    split at ha
    · cases ha
    · rename_i hl
      split at ha <;> rename_i hc <;> obtain rfl := Option.some.inj ha
      · exact .thread hth (.subClosed (by simpa using hl) hc)
      · exact .thread hth (.subStart (by simpa using hl) (by simpa using hc))
  case wqueue => obtain rfl := Option.some.inj ha; exact .thread hth .subWqueue
  case announce =>
    split at ha
    · rename_i hg; obtain rfl := Option.some.inj ha
      simp only [Bool.and_eq_true, Option.isNone_iff_eq_none, List.contains_iff_mem] at hg
      exact .thread hth (.subAnnounce hg.1 hg.2)
    · cases ha
  case drain =>
    split at ha
    · rename_i hg; obtain rfl := Option.some.inj ha
      simp only [Bool.and_eq_true, List.isEmpty_iff, beq_iff_eq] at hg
      exact .thread hth (.subDrain hg.1 hg.2)
    · cases ha
  case tlock =>
    split at ha
    · rename_i hf; obtain rfl := Option.some.inj ha; exact .subTlock _ _ hth hf
    · cases ha
  case register => obtain rfl := Option.some.inj ha; exact .thread hth .subRegister
  case retOk => cases ha
  case retErr => cases ha

theorem step_of_stepTd {s s' : St} {i t sid : Nat} {pc : TPc}
    (hth : s.ths[i]? = some (.td t sid pc)) (ha : stepTd s i t sid pc = some s') : Step s (.step i) s' := by
  cases pc <;> simp only [stepTd] at ha
  case idle =>
    split at ha
    · rename_i hg; obtain rfl := Option.some.inj ha
      exact .thread hth (.tdIdle (by simpa using hg))
    · cases ha
  case subClosed => obtain rfl := Option.some.inj ha; exact .thread hth .tdSubClosed
  case announce =>
    split at ha
    · rename_i hg; obtain rfl := Option.some.inj ha
      simp only [Bool.and_eq_true, Option.isNone_iff_eq_none, List.contains_iff_mem] at hg
      exact .thread hth (.tdAnnounce hg.1 hg.2)
    · cases ha
  case drain =>
    split at ha
    · rename_i hg; obtain rfl := Option.some.inj ha
      simp only [Bool.and_eq_true, List.isEmpty_iff, beq_iff_eq] at hg
      exact .thread hth (.tdDrain hg.1 hg.2)
    · cases ha
  case tlock =>
    split at ha
    · rename_i hf; obtain rfl := Option.some.inj ha; exact .thread hth (.tdTlock hf)
    · cases ha
  case remove =>
    split at ha
    · rename_i hm
      split at ha <;> rename_i hw <;> obtain rfl := Option.some.inj ha
      · exact .panic hth (fun _ => hw)
      · exact .thread hth (.tdRemove (by simpa using hm) hw)
    · rename_i hm; obtain rfl := Option.some.inj ha
      exact .panic hth (fun hx => absurd (List.contains_iff_mem.mpr hx) hm)
  case done => cases ha

theorem step_of_stepCloser {s s' : St} {i : Nat} {pc : CPc}
    (hth : s.ths[i]? = some (.closer pc)) (ha : stepCloser s i pc = some s') : Step s (.step i) s' := by
  cases pc <;> simp only [stepCloser] at ha
  case start =>
    split at ha
    · cases ha
    · rename_i hl
      split at ha <;> rename_i hc <;> obtain rfl := Option.some.inj ha
      · exact .thread hth (.closeAgain (by simpa using hl) hc)
      · exact .thread hth (.closeStart (by simpa using hl) (by simpa using hc))
  case waitWg =>
    split at ha
    · rename_i hw; obtain rfl := Option.some.inj ha; exact .thread hth (.closeWait hw)
    · cases ha
  case ret => cases ha

theorem step_of_act {s : St} {a : Action} {s' : St} (ha : act s a = some s') : Step s a s' := by
  cases a <;> simp only [act] at ha
  case newPub t msgs nested =>
    rcases nested with _ | ⟨d, sid⟩ <;> simp only at ha
    · obtain rfl := Option.some.inj ha; exact .newPub
    · split at ha
      · rename_i hg; obtain rfl := Option.some.inj ha
        simp only [Bool.and_eq_true, Bool.not_eq_true', List.contains_eq_mem, decide_eq_true_eq, decide_eq_false_iff_not] at hg
        exact .newPubNested hg.1 hg.2
      · cases ha
  case newSub t => obtain rfl := Option.some.inj ha; exact .newSub
  case newClose => obtain rfl := Option.some.inj ha; exact .newClose
  case cancel sid => obtain rfl := Option.some.inj ha; exact .cancel
  case senderDone d sid =>
    split at ha
    · rename_i hg; obtain rfl := Option.some.inj ha
      simp only [Bool.and_eq_true, Bool.not_eq_true', List.contains_eq_mem, decide_eq_true_eq, decide_eq_false_iff_not] at hg
      exact .senderDone hg.1 hg.2
    · cases ha
  case step i =>
    split at ha
    · rename_i hth; exact step_of_stepPub hth ha
    · rename_i hth; exact step_of_stepSub hth ha
    · rename_i hth; exact step_of_stepTd hth ha
    · rename_i hth; exact step_of_stepCloser hth ha
    · cases ha

end Wm.GcReg
