import WmModel.Lemmas.GcDecStep
namespace Wm.GcDec

/-- the inner channel a thread is responsible for -/
def own : Th → Option Nat
  | .sub k .lock | .sub k .add | .sub k .unlock | .sub k .spawn => some k
  | .pump k _ _ _ _ => some k
  | _ => none

/-- pump has closed its `out` channel -/
def outDone : Th → Option Nat
  | .pump k .wgDone _ _ _ | .pump k .done _ _ _ => some k
  | _ => none

theorem own_of_outDone {th : Th} {k : Nat} (h : outDone th = some k) : own th = some k := by
  cases th with
  | pump _ pc _ _ _ => cases pc <;> cases h <;> rfl
  | _ => cases h

/-- every inner channel has one owner (the Subscribe call, then its pump); `out` is closed only by a pump past `close(out)` -/
def ChOk (s : St) : Prop :=
  (∀ (i j : Nat) (th th' : Th) (k : Nat), s.ths[i]? = some th → s.ths[j]? = some th' → own th = some k → own th' = some k → i = j) ∧
  (∀ (i : Nat) (th : Th), s.ths[i]? = some th → ∀ k, own th = some k → k < s.ins.length) ∧
  (∀ (k : Nat), k ∈ s.outClosed → ∃ (i : Nat) (th : Th), s.ths[i]? = some th ∧ outDone th = some k)

theorem ch_init : ChOk init :=
  ⟨fun _ _ _ _ _ h => (init_no_thread h).elim, fun _ _ h => (init_no_thread h).elim, nofun⟩

theorem ch_congr (s u : St) (h1 : u.ths = s.ths) (h2 : s.ins.length ≤ u.ins.length) (h3 : u.outClosed = s.outClosed)
    (h : ChOk s) : ChOk u := by
  obtain ⟨c1, c2, c3⟩ := h
  refine ⟨by rw [h1]; exact c1, ?_, by rw [h1, h3]; exact c3⟩
  intro i th hi k ho; rw [h1] at hi; exact Nat.lt_of_lt_of_le (c2 i th hi k ho) h2

/-- thread `i` moves to `new`: a channel `new` owns exists and no other thread owns it; an `out` channel `old` had closed
    counts as closed by `new`, and a newly closed one is closed by `new` -/
theorem ch_set (s u : St) (i : Nat) (old new : Th) (hold : s.ths[i]? = some old)
    (hths : u.ths = s.ths.set i new) (hlen : s.ins.length ≤ u.ins.length)
    (hown : ∀ k, own new = some k → k < u.ins.length ∧ ∀ (j : Nat) (th : Th), s.ths[j]? = some th → own th = some k → j = i)
    (hod : ∀ k, outDone old = some k → outDone new = some k)
    (hout : ∀ k, k ∈ u.outClosed → k ∈ s.outClosed ∨ outDone new = some k) (h : ChOk s) : ChOk u := by
  obtain ⟨c1, c2, c3⟩ := h
  have hi : i < s.ths.length := (List.getElem?_eq_some_iff.mp hold).1
  refine ⟨?_, ?_, ?_⟩
  · intro a b th th' k ha hb hoa hob
    rw [hths] at ha hb
    rcases get_set_cases _ _ _ _ _ ha with ⟨rfl, rfl⟩ | ⟨hai, ha'⟩ <;>
    rcases get_set_cases _ _ _ _ _ hb with ⟨rfl, rfl⟩ | ⟨hbi, hb'⟩
    · rfl
    · exact ((hown k hoa).2 b th' hb' hob).symm
    · exact (hown k hob).2 a th ha' hoa
    · exact c1 a b th th' k ha' hb' hoa hob
  · exact hths ▸ forall_set (fun j th hj k ho => Nat.lt_of_lt_of_le (c2 j th hj k ho) hlen) i new
      (fun k ho => (hown k ho).1)
  · intro k hk
    rcases hout k hk with hk' | hnew
    · obtain ⟨j, th, hj, hd⟩ := c3 k hk'
      by_cases hji : j = i
      · subst hji
        rw [hold] at hj; injection hj with hj; subst hj
        exact ⟨j, new, by rw [hths]; exact List.getElem?_set_self hi, hod k hd⟩
      · exact ⟨j, th, by rw [hths]; exact set_get_of_ne _ _ _ _ _ hji hj, hd⟩
    · exact ⟨i, new, by rw [hths]; exact List.getElem?_set_self hi, hnew⟩

/-- thread `i` moves and keeps what it owns and what it has closed -/
theorem ch_set_keep (s u : St) (i : Nat) (old new : Th) (hold : s.ths[i]? = some old)
    (hths : u.ths = s.ths.set i new) (hlen : s.ins.length ≤ u.ins.length) (hown : own new = own old)
    (hod : outDone new = outDone old) (hout : u.outClosed = s.outClosed) (h : ChOk s) : ChOk u :=
  ch_set s u i old new hold hths hlen
    (fun k hk => ⟨Nat.lt_of_lt_of_le (h.2.1 i old hold k (hown ▸ hk)) hlen,
      fun j th hj ho => h.1 j i th old k hj hold ho (hown ▸ hk)⟩)
    (fun _ hk => hod ▸ hk) (fun _ hk => Or.inl (hout ▸ hk)) h

/-- a new thread: a channel it owns exists and no thread owned it before -/
theorem ch_append (s u : St) (new : Th) (hths : u.ths = s.ths ++ [new]) (hlen : s.ins.length ≤ u.ins.length)
    (hown : ∀ k, own new = some k → k < u.ins.length ∧ ∀ (j : Nat) (th : Th), s.ths[j]? = some th → own th ≠ some k)
    (h3 : u.outClosed = s.outClosed) (h : ChOk s) : ChOk u := by
  obtain ⟨c1, c2, c3⟩ := h
  refine ⟨?_, ?_, ?_⟩
  · intro a b th th' k ha hb hoa hob
    rw [hths] at ha hb
    rcases get_append_cases _ _ _ _ ha with ⟨_, ha'⟩ | ⟨rfl, rfl⟩ <;>
    rcases get_append_cases _ _ _ _ hb with ⟨_, hb'⟩ | ⟨rfl, rfl⟩
    · exact c1 a b th th' k ha' hb' hoa hob
    · exact absurd hoa ((hown k hob).2 a th ha')
    · exact absurd hob ((hown k hoa).2 b th' hb')
    · rfl
  · exact hths ▸ forall_append (fun j th hj k ho => Nat.lt_of_lt_of_le (c2 j th hj k ho) hlen) new
      (fun k ho => (hown k ho).1)
  · intro k hk
    rw [h3] at hk
    obtain ⟨j, th, hj, hd⟩ := c3 k hk
    exact ⟨j, th, by rw [hths]; exact append_get_of_get _ _ _ _ hj, hd⟩

theorem ch_step (s : St) (a : Action) (s' : St) (h : ChOk s) (ha : act s a = some s') : ChOk s' := by
  cases step_of_act ha
  case newSub | newClose => exact ch_append s _ _ rfl (Nat.le_refl _) nofun rfl h
  case push | inClose => exact ch_congr s _ rfl (Nat.le_of_eq List.length_set.symm) rfl h
  case panic => exact ch_congr s _ rfl (Nat.le_refl _) rfl h
  case spawn i k hth =>
    -- Subscribe hands its channel over to the pump goroutine it starts
    let mid : St := { s with ths := s.ths.set i (Th.sub k .retOk) }
    have hmid : ChOk mid := ch_set s mid i _ _ hth rfl (Nat.le_refl _) nofun nofun (fun _ => Or.inl) h
    refine ch_append mid _ (Th.pump k .recv 0 0 0) rfl (Nat.le_refl _) (fun k' hk' => ?_) rfl hmid
    cases hk'
    refine ⟨h.2.1 i _ hth k rfl, fun j th hj ho => ?_⟩
    rcases get_set_cases _ _ _ _ _ hj with ⟨_, rfl⟩ | ⟨hji, hj'⟩
    · cases ho
    · exact hji (h.1 j i th _ k hj' hth ho rfl)
  case move hth hm =>
    cases hm
    case subInner =>
      -- the inner Subscribe hands out a fresh channel, beyond those owned so far
      have hl : s.ins.length < (s.ins ++ [(⟨true, 0⟩ : In)]).length := by
        rw [List.length_append]; exact Nat.lt_succ_self _
      refine ch_set s _ _ _ _ hth rfl (Nat.le_of_lt hl) (fun k hk => ?_) nofun (fun _ => Or.inl) h
      cases hk
      exact ⟨hl, fun j th hj ho => absurd (h.2.1 j th hj _ ho) (Nat.lt_irrefl _)⟩
    case closeInner => exact ch_set_keep s _ _ _ _ hth rfl (Nat.le_of_eq (List.length_map _).symm) rfl rfl rfl h
    case pumpRecv => exact ch_set_keep s _ _ _ _ hth rfl (Nat.le_of_eq List.length_set.symm) rfl rfl rfl h
    case closeOut =>
      -- the pump that closes `out` is from now on the thread recorded for it
      refine ch_set s _ _ _ _ hth rfl (Nat.le_refl _)
        (fun k hk => ⟨h.2.1 _ _ hth k hk, fun j th hj ho => h.1 j _ th _ k hj hth ho hk⟩) nofun (fun k' hk' => ?_) h
      rcases List.mem_cons.mp hk' with rfl | hk'
      · exact Or.inr rfl
      · exact Or.inl hk'
    all_goals exact ch_set_keep s _ _ _ _ hth rfl (Nat.le_refl _) rfl rfl rfl h

end Wm.GcDec
