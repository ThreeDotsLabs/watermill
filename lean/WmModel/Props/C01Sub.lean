/-
  C01 – the safety half of the per-stage hypothesis H2 of the pipeline model ("a token leaves a subscription only by the
  Ack of a copy the consumer received; a Nack puts it back to pending") is *derived* from M_sub (WmModel/GcSub.lean), the
  model of one GoChannel subscription that is tied to the code by trace conformance (GcConf.lean) on every run.

  For a publication `p` handed to the subscription, its token in the pipeline model is read off the M_sub state:
     gone      – some copy of `p` is acked                                   (`Acked s p`)
     handling  – no copy acked, some copy received and not yet settled       (`InHand s p`)
     pending   – neither: the sender is queued / preparing a copy / the copy sits in the channel / the last copy was
                 nacked and the sender is on its way back to the loop head
  `sub_step_refines_token`: EVERY step of M_sub (all 16 actions, from ANY state – no reachability needed) moves that token
  only along the edges the pipeline model has: pending → handling (`deliver`), handling → pending (`fault`, and only by the
  consumer's Nack), handling → gone (`publishOk; ack`, and only by the consumer's Ack), or not at all.  In particular a
  token never disappears without having been handled, and never comes back once acked.
  Of the liveness half (after a Nack a new copy really is delivered) `nack_means_resend` (Props/C04.lean) gives the first
  step: the sender that observes the Nack goes back to the loop head instead of leaving.
-/
import WmModel.Lemmas.GcSubCtl
import WmModel.Pipeline
namespace Wm.GcSub
open Wm.Ack (Sent)
open Wm.Pipeline (Phase)

def Acked (s : St) (p : Nat) : Prop := ∃ (i : Nat) (cp : Copy), s.copies[i]? = some cp ∧ cp.pub = p ∧ cp.settle = Sent.ack
def InHand (s : St) (p : Nat) : Prop :=
  ∃ (i : Nat) (cp : Copy), s.copies[i]? = some cp ∧ cp.pub = p ∧ cp.received = true ∧ cp.settle = Sent.none

/-- the token of publication `p` at this subscription, as the pipeline model sees it (`none` = removed) -/
def TokIs (s : St) (p : Nat) : Option Phase → Prop
  | none             => Acked s p
  | some .handling   => ¬ Acked s p ∧ InHand s p
  | some .pending    => ¬ Acked s p ∧ ¬ InHand s p
  | some .published  => False      -- a subscription of GoChannel has no such phase: `published` belongs to the Router stage

/-- the moves of one token in `Wm.Pipeline.act`, seen from one subscription -/
inductive TokMove : Option Phase → Option Phase → Prop
  | same (a) : TokMove a a
  | deliver  : TokMove (some .pending) (some .handling)
  | nack     : TokMove (some .handling) (some .pending)
  | ack      : TokMove (some .handling) none

theorem tokIs_total (s : St) (p : Nat) : ∃ a, TokIs s p a := by
  by_cases h1 : Acked s p
  · exact ⟨none, h1⟩
  · by_cases h2 : InHand s p
    · exact ⟨some .handling, h1, h2⟩
    · exact ⟨some .pending, h1, h2⟩

theorem tokIs_unique (s : St) (p : Nat) (a b : Option Phase) (ha : TokIs s p a) (hb : TokIs s p b) : a = b := by
  cases a with
  | none => cases b with
    | none => rfl
    | some y => cases y <;> simp [TokIs] at ha hb <;> exact absurd ha hb.1
  | some x => cases b with
    | none => cases x <;> simp [TokIs] at ha hb <;> exact absurd hb ha.1
    | some y => cases x <;> cases y <;> simp_all [TokIs]

/-- how one step changes the list of copies -/
inductive CopiesStep (s s' : St) (a : Action) : Prop
  | unchanged (h : s'.copies = s.copies)
  | fresh (p : Nat) (h : s'.copies = s.copies ++ [⟨p, false, false, .none⟩])
  | handedOver (c : Nat) (f : Copy → Copy) (hf : ∀ cp, (f cp).pub = cp.pub ∧ (f cp).settle = cp.settle ∧
        (cp.received = true → (f cp).received = true)) (ha : a = .sSend ∨ a = .recv)
      (h : s'.copies = s.copies.modify c f)
  | settled (c : Nat) (v : Sent) (cp : Copy) (ha : a = .settle c v) (hv : v ≠ .none) (hc : s.copies[c]? = some cp)
      (hr : cp.received = true)
      (h : s'.copies = s.copies.modify c (fun cp => { cp with settle := if cp.settle = .none then v else cp.settle }))

/-- `CopiesStep` read at one index: what the step `a` does to the copy at index `i` (`x` before, `y` after; `none`: no
    such copy yet) – nothing (`same`, which includes the settlement of a copy that was settled already), or the copy is
    created, handed to the consumer, or settled by the consumer.  The four theorems about `Acked` and `InHand` below
    read this off for the copy that witnesses them. -/
inductive CopyMove (a : Action) (i : Nat) (x y : Option Copy) : Prop
  | same (h : y = x)
  | fresh (p : Nat) (hx : x = none) (hy : y = some ⟨p, false, false, .none⟩)
  | handedOver (cp cp' : Copy) (hx : x = some cp) (hy : y = some cp') (ha : a = .sSend ∨ a = .recv)
      (hp : cp'.pub = cp.pub) (hs : cp'.settle = cp.settle) (hr : cp.received = true → cp'.received = true)
  | settled (cp : Copy) (v : Sent) (hx : x = some cp) (hy : y = some { cp with settle := v }) (ha : a = .settle i v)
      (hv : v ≠ .none) (hr : cp.received = true) (hn : cp.settle = .none)

theorem getElem?_modify_cases {α : Type} (l : List α) (c i : Nat) (f : α → α) :
    (l.modify c f)[i]? = l[i]? ∨ (c = i ∧ ∃ cp, l[i]? = some cp ∧ (l.modify c f)[i]? = some (f cp)) := by
  rw [List.getElem?_modify]
  cases l[i]? with
  | none => exact .inl rfl
  | some cp =>
    by_cases e : c = i
    · exact .inr ⟨e, cp, rfl, congrArg some (if_pos e)⟩
    · exact .inl (congrArg some (if_neg e))

theorem copies_step (s s' : St) (a : Action) (h : act s a = some s') : CopiesStep s s' a := by
  cases step_of_act h with
  | sTop _ _ => exact .fresh _ rfl
  | sendDirect _ _ _ => exact .handedOver _ _ (by exact fun _ => ⟨rfl, rfl, fun _ => rfl⟩) (.inl rfl) rfl
  | sendBuf _ _ _ _ => exact .handedOver _ _ (by exact fun _ => ⟨rfl, rfl, id⟩) (.inl rfl) rfl
  | recv _ => exact .handedOver _ _ (by exact fun _ => ⟨rfl, rfl, fun _ => rfl⟩) (.inr rfl) rfl
  | settle hc hr hv => exact .settled _ _ _ rfl hv hc hr rfl
  | _ => exact .unchanged rfl

theorem copy_move (s s' : St) (a : Action) (h : act s a = some s') (i : Nat) :
    CopyMove a i s.copies[i]? s'.copies[i]? := by
  cases copies_step s s' a h with
  | unchanged hc => exact .same (by rw [hc])
  | fresh p hc =>
    rw [hc]
    rcases Nat.lt_trichotomy i s.copies.length with hl | rfl | hl
    · exact .same (List.getElem?_append_left hl)
    · exact .fresh _ (List.getElem?_eq_none (Nat.le_refl _)) List.getElem?_concat_length
    · exact .same ((List.getElem?_eq_none (by rw [List.length_append]; exact hl)).trans
        (List.getElem?_eq_none (Nat.le_of_lt hl)).symm)
  | handedOver c f hf ha hc =>
    rw [hc]
    exact (getElem?_modify_cases s.copies c i f).elim .same
      (fun ⟨_, cp, hx, hy⟩ => .handedOver cp (f cp) hx hy ha (hf cp).1 (hf cp).2.1 (hf cp).2.2)
  | settled c v cp ha hv hc0 hr hc =>
    rw [hc]
    rcases getElem?_modify_cases s.copies c i _ with e | ⟨rfl, cp', hx, hy⟩
    · exact .same e
    · rw [hc0] at hx; cases hx
      by_cases hn : cp.settle = .none
      · exact .settled cp v hc0 (by rw [hy, if_pos hn]) ha hv hr hn
      · exact .same (by rw [hy, hc0, if_neg hn])

/-- **acked stays acked** -/
theorem acked_mono (s s' : St) (a : Action) (h : act s a = some s') (p : Nat) (hp : Acked s p) : Acked s' p := by
  obtain ⟨i, cp, hi, h1, h2⟩ := hp
  rcases copy_move s s' a h i with e | ⟨_, ex, _⟩ | ⟨x, x', ex, ey, _, hp', hs, _⟩ | ⟨x, _, ex, _, _, _, _, hn⟩
  · exact ⟨i, cp, e.trans hi, h1, h2⟩
  · rw [hi] at ex; cases ex
  · rw [hi] at ex; cases ex
    exact ⟨i, x', ey, hp'.trans h1, hs.trans h2⟩
  · rw [hi] at ex; cases ex
    rw [h2] at hn; cases hn

/-- **a token is removed only out of `handling`, and only by the consumer's Ack of a received copy** -/
theorem ack_only_from_hand (s s' : St) (a : Action) (h : act s a = some s') (p : Nat)
    (hn : ¬ Acked s p) (hp : Acked s' p) : InHand s p ∧ ∃ c, a = .settle c .ack := by
  obtain ⟨i, y, hi, h1, h2⟩ := hp
  rcases copy_move s s' a h i with e | ⟨_, _, ey⟩ | ⟨x, x', ex, ey, _, hp', hs, _⟩ | ⟨x, v, ex, ey, ha, _, hr, hn'⟩
  · exact absurd ⟨i, y, e.symm.trans hi, h1, h2⟩ hn
  · rw [hi] at ey; cases ey; cases h2
  · rw [hi] at ey; cases ey
    exact absurd ⟨i, x, ex, hp'.symm.trans h1, hs.symm.trans h2⟩ hn
  · rw [hi] at ey; cases ey
    obtain rfl : v = .ack := h2
    exact ⟨⟨i, x, ex, h1, hr, hn'⟩, i, ha⟩

/-- **a token leaves `handling` only by a settlement of the consumer** (Ack: gone; Nack: pending again) -/
theorem hand_left_only_by_settle (s s' : St) (a : Action) (h : act s a = some s') (p : Nat)
    (hp : InHand s p) (hn : ¬ InHand s' p) : ∃ c v, a = .settle c v ∧ v ≠ .none := by
  obtain ⟨i, cp, hi, h1, h2, h3⟩ := hp
  rcases copy_move s s' a h i with e | ⟨_, ex, _⟩ | ⟨x, x', ex, ey, _, hp', hs, hr⟩ | ⟨_, v, _, _, ha, hv, _, _⟩
  · exact absurd ⟨i, cp, e.trans hi, h1, h2, h3⟩ hn
  · rw [hi] at ex; cases ex
  · rw [hi] at ex; cases ex
    exact absurd ⟨i, x', ey, hp'.trans h1, hr h2, hs.trans h3⟩ hn
  · exact ⟨i, v, ha, hv⟩

/-- **a token enters `handling` only by a delivery**: the consumer took a copy from the channel (`recv`) or the sender
    handed it over directly (`sSend`, unbuffered channel) -/
theorem hand_entered_only_by_delivery (s s' : St) (a : Action) (h : act s a = some s') (p : Nat)
    (hn : ¬ InHand s p) (hp : InHand s' p) : a = .sSend ∨ a = .recv := by
  obtain ⟨i, y, hi, h1, h2, h3⟩ := hp
  rcases copy_move s s' a h i with e | ⟨_, _, ey⟩ | ⟨_, _, _, _, ha, _, _, _⟩ | ⟨_, v, _, ey, _, hv, _, _⟩
  · exact absurd ⟨i, y, e.symm.trans hi, h1, h2, h3⟩ hn
  · rw [hi] at ey; cases ey; cases h2
  · exact ha
  · rw [hi] at ey; cases ey
    exact absurd h3 hv

/-- **H2 (safety) derived: every step of a GoChannel subscription moves the token of every publication only along the
    edges of the pipeline model** – for all 16 actions, all buffer sizes, all states -/
theorem sub_step_refines_token (s s' : St) (a : Action) (h : act s a = some s') (p : Nat)
    (x y : Option Phase) (hx : TokIs s p x) (hy : TokIs s' p y) : TokMove x y := by
  cases x with
  | none =>
    have := acked_mono s s' a h p hx
    cases y with
    | none => exact .same _
    | some y => cases y <;> simp [TokIs] at hy <;> exact absurd this hy.1
  | some x =>
    cases x with
    | published => cases hx
    | handling =>
      cases y with
      | none => exact .ack
      | some y => cases y with
        | published => cases hy
        | handling => exact .same _
        | pending => exact .nack
    | pending =>
      cases y with
      | none => exact absurd (ack_only_from_hand s s' a h p hx.1 hy).1 hx.2
      | some y => cases y with
        | published => cases hy
        | handling => exact .deliver
        | pending => exact .same _

def runFrom (s : St) : List Action → Option St
  | [] => some s
  | a :: r => (act s a).bind (fun s1 => runFrom s1 r)

/-- along any execution: once a copy of `p` is acked the token never comes back -/
theorem sub_run_acked_stays (s : St) (acts : List Action) (s' : St) (h : runFrom s acts = some s') (p : Nat) :
    Acked s p → Acked s' p := by
  induction acts generalizing s with
  | nil => simp [runFrom] at h; subst h; exact id
  | cons a rest ih =>
    simp only [runFrom] at h
    cases ha : act s a with
    | none => simp [ha] at h
    | some s1 =>
      simp [ha] at h
      intro hp
      exact ih s1 h (acked_mono s s1 a ha p hp)

/-! ### non-vacuity: a concrete run through all three phases and back (buffer 1): spawn, lock, check, top, send, recv,
    nack, observe, top, send, recv, ack -/

def exActs : List Action :=
  [.spawn, .sLock 0, .sCheck, .sTop, .sSend, .recv, .settle 0 .nack, .sObsNack, .sTop, .sSend, .recv, .settle 1 .ack]

example : ((runFrom (init 1) (exActs.take 5)).map (fun s => s.copies)) = some [⟨0, true, false, .none⟩] := by decide
example : ((runFrom (init 1) (exActs.take 6)).map (fun s => s.copies)) = some [⟨0, true, true, .none⟩] := by decide
example : ((runFrom (init 1) (exActs.take 7)).map (fun s => s.copies)) = some [⟨0, true, true, .nack⟩] := by decide
example : ((runFrom (init 1) exActs).map (fun s => s.copies)) =
    some [⟨0, true, true, .nack⟩, ⟨0, true, true, .ack⟩] := by decide

/-- after `recv` the token is in `handling` … -/
example (s : St) (h : s.copies = [⟨0, true, true, .none⟩]) : TokIs s 0 (some .handling) := by
  refine ⟨?_, 0, _, by rw [h]; rfl, rfl, rfl, rfl⟩
  rintro ⟨i, cp, hi, _, h2⟩
  rw [h] at hi
  match i, hi with
  | 0, hi => cases hi; cases h2
  | _ + 1, hi => cases hi
/-- … after the Nack it is `pending` again … -/
example (s : St) (h : s.copies = [⟨0, true, true, .nack⟩]) : TokIs s 0 (some .pending) := by
  refine ⟨?_, ?_⟩
  · rintro ⟨i, cp, hi, _, h2⟩
    rw [h] at hi
    match i, hi with
    | 0, hi => cases hi; cases h2
    | _ + 1, hi => cases hi
  · rintro ⟨i, cp, hi, _, _, h3⟩
    rw [h] at hi
    match i, hi with
    | 0, hi => cases hi; cases h3
    | _ + 1, hi => cases hi
/-- … and after the Ack of the second copy it is gone -/
example (s : St) (h : s.copies = [⟨0, true, true, .nack⟩, ⟨0, true, true, .ack⟩]) : TokIs s 0 none :=
  ⟨1, _, by rw [h]; rfl, rfl, rfl⟩

end Wm.GcSub
