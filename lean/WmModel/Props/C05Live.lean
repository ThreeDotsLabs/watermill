/-
  C05 / C07 – deadlock freedom of the GoChannel registry protocol (model M_reg), any number of concurrent Publish,
  Subscribe, Close calls and unsubscribe goroutines, every interleaving.
  "Something can move" (`Movable`) = some thread can take a step, or some sender goroutine can finish (a consumer's ack).
  A thread is `resting` when its call has returned, or it is an unsubscribe goroutine whose subscription is neither
  cancelled nor being closed (it waits for its own environment event).

  * `nonblocking_no_deadlock`: without BlockPublishUntilSubscriberAck no reachable state with an unfinished call is stuck –
    also with subscribers that publish from their receive loop, pending writers, Close.
  * `blocking_deadlock_needs_nested_publish`: with BlockPublishUntilSubscriberAck a stuck state must contain a nested
    Publish in progress (`reserved ≠ []`: a consumer that publishes before acking) – the exact shape of the recorded
    finding D11 (`blocking_deadlock_witness`); without one, an unfinished call always leaves something movable, where the
    only things Publish waits for are consumers' acks.
  * `closing_no_deadlock`: once Close has signalled, nothing is ever stuck (this is `close_never_stuck` for every thread).
-/
import WmModel.Lemmas.GcRegMov
import WmModel.Lemmas.GcRegNoWait
import WmModel.Props.C07Close
namespace Wm.GcReg
open Wm.Lts

theorem reach_nw (cfg : Cfg) : ∀ s, Reach (sys cfg) s → NoWaitOk s :=
  inv_of_Step cfg NoWaitOk (nw_init cfg) (fun _ h hs => nw_step h hs)

theorem goal_of_unrested {G : Prop} (cfg : Cfg) (s : St) (h : Reach (sys cfg) s) (inj : Progress s → G) (hw : WaitG s G)
    (i : Nat) (th : Th) (hth : s.ths[i]? = some th) (hr : resting s th = false) : G :=
  mov_of_unrested inj hw (reach_q cfg s h) (reach_rd cfg s h) (reach_tl cfg s h) (reach_w1 cfg s h) (reach_close cfg s h)
    (reach_wg cfg s h) hth hr

/-- **non-blocking mode never deadlocks**: whenever some call has not returned (or an unsubscribe goroutine has work to
    do), some thread can take a step – whatever consumers do -/
theorem nonblocking_no_deadlock (p : Bool) (s : St) (h : Reach (sys ⟨p, false⟩) s) (i : Nat) (th : Th)
    (hth : s.ths[i]? = some th) (hr : resting s th = false) : ∃ j, (act s (.step j)).isSome = true := by
  have hnw := reach_nw _ s h (by rw [cfg_const _ s h])
  exact goal_of_unrested _ s h (fun x => x) (fun k _ _ _ _ hk => nomatch hnw k _ hk) i th hth hr

/-- **a blocking-mode deadlock needs a consumer that publishes before it acks**: while no nested Publish is in progress,
    an unfinished call always leaves a thread that can step or a sender that can finish (an ack the Publish waits for) -/
theorem blocking_deadlock_needs_nested_publish (cfg : Cfg) (s : St) (h : Reach (sys cfg) s) (hres : s.reserved = [])
    (i : Nat) (th : Th) (hth : s.ths[i]? = some th) (hr : resting s th = false) : Movable s :=
  goal_of_unrested cfg s h Or.inl (waitOk_of_no_reserved s hres) i th hth hr

/-- **once Close has signalled nothing is stuck**, nested publishes or not -/
theorem closing_no_deadlock (cfg : Cfg) (s : St) (h : Reach (sys cfg) s) (hc : s.closingSig = true)
    (i : Nat) (th : Th) (hth : s.ths[i]? = some th) (hr : resting s th = false) :
    ∃ j, (act s (.step j)).isSome = true :=
  goal_of_unrested cfg s h (fun x => x) (waitG_of_closing (fun x => x) hc) i th hth hr

/-- the D11 state is stuck, has an unfinished Publish – and indeed a nested Publish in progress -/
theorem d11_has_nested_publish :
    ∃ s, exec (sys ⟨false, true⟩) (init ⟨false, true⟩) d11Run = some s ∧ s.reserved = [(0, 0)] ∧
      resting s (.pub 0 [] (.wait 0) none) = false ∧ someThreadEnabled s = false := by
  refine ⟨_, rfl, ?_, ?_, ?_⟩ <;> decide

end Wm.GcReg
