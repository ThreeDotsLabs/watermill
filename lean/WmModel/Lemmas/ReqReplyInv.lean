/-
  The request-reply model (WmModel/ReqReply.lean) seen through relations: the shape of the effect list of
  `command`; one step of a listener (`LStep`), of its environment (`CStep`) and of the system (`Step`), each obtained
  once from the step function; the per-listener invariant `LOk`, kept by every step, and the system invariant `SOk`.
  Holds for both modes (`fixed = true`: the code as it is; `fixed = false`: before the repair of D12).
-/
import WmModel.ReqReply
import WmModel.Lts
import WmModel.Lemmas.ListIdx
namespace Wm.ReqReply
open Wm.Lts

def sys (fixed ackErrs : Bool) : Sys St Action := { init := init ackErrs, act := act fixed }

/-- once `OnCommandProcessed` gets as far as `Publish`, the effects are: the `Publish` call with the reply, its
    return, the settlement of the command -/
theorem command_ok (a : Bool) (op : Nat) (o : HOut) (p : PubRes) :
    command a .ok op o p = [.publishCall (notifOf op o), .publishRet (p == .ok),
      if p ≠ .failed ∧ (a = true ∨ o.err = none) then .ack else .nack] := by
  cases p <;> cases a <;> cases h : o.err <;> simp [command, onCommandProcessed, h]

theorem accepted_command {a : Bool} {pre : Pre} {op : Nat} {o : HOut} {p : PubRes} {n : Notif}
    (h : n ∈ accepted (command a pre op o p)) : pre = .ok ∧ p = .ok ∧ n = notifOf op o := by
  cases pre
  case ok =>
    rw [command_ok] at h
    cases p <;> simp [accepted] at h
    exact ⟨rfl, rfl, h⟩
  all_goals simp [command, onCommandProcessed, accepted] at h

/-! `made` and `ownIn` count list elements (`List.countP`, written with `filter`): the equations of `countP` -/

@[simp] theorem made_nil : made [] = 0 := rfl
@[simp] theorem made_append (a b : List Reply) : made (a ++ b) = made a + made b := by
  simp only [made, ← List.countP_eq_length_filter, List.countP_append]
@[simp] theorem made_cons (r : Reply) (rs : List Reply) : made (r :: rs) = (if r.op?.isSome then 1 else 0) + made rs := by
  simp only [made, ← List.countP_eq_length_filter, List.countP_cons, Nat.add_comm]
@[simp] theorem ownIn_nil (o : Nat) : ownIn o [] = 0 := rfl
@[simp] theorem ownIn_append (o : Nat) (a b : List Notif) : ownIn o (a ++ b) = ownIn o a + ownIn o b := by
  simp only [ownIn, ← List.countP_eq_length_filter, List.countP_append]
@[simp] theorem ownIn_cons (o : Nat) (n : Notif) (ns : List Notif) :
    ownIn o (n :: ns) = (if n.op = o then 1 else 0) + ownIn o ns := by
  simp only [ownIn, ← List.countP_eq_length_filter, List.countP_cons, Nat.add_comm, beq_iff_eq]

theorem room_iff (l : Listener) : room l = true ↔ l.buf = [] := by
  cases hb : l.buf <;> simp [room, hb]

theorem push_open {l : Listener} (r : Reply) (h : l.chanClosed = false) : push l r = { l with buf := l.buf ++ [r] } := by
  simp [push, h]

@[simp] theorem push_op (l : Listener) (r : Reply) : (push l r).op = l.op := by unfold push; split <;> rfl
@[simp] theorem push_ctx (l : Listener) (r : Reply) : (push l r).ctx = l.ctx := by unfold push; split <;> rfl
@[simp] theorem push_inbox (l : Listener) (r : Reply) : (push l r).inbox = l.inbox := by unfold push; split <;> rfl

/-- `lstep`, one constructor per enabled branch.  `ctx…` / `sub…`: the outer `select` takes `<-ctx.Done()` / finds
    `notifyMsgs` closed; then the inner `select` sends the timeout reply if the channel has room (`…Reply`), else, in
    the repaired code, nothing (`…NoReply`) -/
inductive LStep (fixed : Bool) (l : Listener) : LAct → Listener → Prop
  | ctxReply {w : Why} : l.pc = .loop → l.ctx.why = some w → l.buf = [] →
      LStep fixed l .ctx { push l (.timeout w) with pc := .ret0 }
  | ctxNoReply {w : Why} : l.pc = .loop → l.ctx.why = some w → l.buf ≠ [] → fixed = true →
      LStep fixed l .ctx { l with pc := .ret0 }
  | recvOwn {n : Notif} {rest : List Notif} {r : Reply} : l.pc = .loop → l.inbox = n :: rest →
      replyFor l.op n = some r →
      LStep fixed l .recv { l with inbox := rest, acked := l.acked + 1, ownSeen := l.ownSeen + 1, pc := .send r }
  | recvOther {n : Notif} {rest : List Notif} : l.pc = .loop → l.inbox = n :: rest → replyFor l.op n = none →
      LStep fixed l .recv { l with inbox := rest, acked := l.acked + 1 }
  | subReply : l.pc = .loop → l.inbox = [] → l.subClosed = true → l.buf = [] →
      LStep fixed l .subClosed { push l (.timeout .subClosed) with pc := .ret0 }
  | subNoReply : l.pc = .loop → l.inbox = [] → l.subClosed = true → l.buf ≠ [] → fixed = true →
      LStep fixed l .subClosed { l with pc := .ret0 }
  | send {r : Reply} : l.pc = .send r → l.buf = [] → LStep fixed l .send { push l r with pc := .loop }
  | sendCtx {r : Reply} : l.pc = .send r → fixed = true → l.ctx ≠ .live →
      LStep fixed l .sendCtx { l with pc := .loop }
  | cancel : l.pc = .ret0 →
      LStep fixed l .cancel { l with pc := .ret1, ctx := if l.ctx = .live then .canceled else l.ctx }
  | closeTwice : l.pc = .ret1 → l.chanClosed = true → LStep fixed l .close { l with panicked := true }
  | close : l.pc = .ret1 → l.chanClosed = false → LStep fixed l .close { l with pc := .ret2, chanClosed := true }
  | finish : l.pc = .ret2 → LStep fixed l .finish { l with pc := .done, finishedCalls := l.finishedCalls + 1 }

/-- the inner `select` before returning, for any property `R` of the state after it -/
theorem inner_select_inv {fixed : Bool} {l l' : Listener} {w : Why} {R : Listener → Prop}
    (hreply : l.buf = [] → R { push l (.timeout w) with pc := .ret0 })
    (hnone : l.buf ≠ [] → fixed = true → R { l with pc := .ret0 })
    (h : (if room l then some { push l (.timeout w) with pc := .ret0 }
          else if fixed then some { l with pc := .ret0 } else none) = some l') : R l' := by
  by_cases hr : room l = true
  · rw [if_pos hr] at h
    cases h
    exact hreply ((room_iff l).mp hr)
  · rw [if_neg hr] at h
    by_cases hf : fixed = true
    · rw [if_pos hf] at h
      cases h
      exact hnone (fun hb => hr ((room_iff l).mpr hb)) hf
    · rw [if_neg hf] at h
      cases h

theorem lstep_inv {fixed : Bool} {l l' : Listener} {a : LAct} (h : lstep fixed l a = some l') :
    LStep fixed l a l' := by
  cases a <;> simp only [lstep] at h <;> split at h <;> try (cases h; done)
  -- what is left: for each action, in the order of `LAct`, the case of the outer `match` in which it is enabled
  next w hpc hw => exact inner_select_inv (.ctxReply hpc hw) (.ctxNoReply hpc hw) h
  next n rest hpc hin =>
    split at h <;> cases h
    next hr => exact .recvOwn hpc hin hr
    next hr => exact .recvOther hpc hin hr
  next hpc hin =>
    split at h
    next hs => exact inner_select_inv (.subReply hpc hin hs) (.subNoReply hpc hin hs) h
    next => cases h
  next r hpc =>
    split at h <;> cases h
    next hr => exact .send hpc ((room_iff l).mp hr)
  next r hpc =>
    split at h <;> cases h
    next hc =>
      simp only [Bool.and_eq_true, bne_iff_ne, ne_eq] at hc
      exact .sendCtx hpc hc.1 hc.2
  next hpc => cases h; exact .cancel hpc
  next hpc =>
    split at h <;> cases h
    next hc => exact .closeTwice hpc hc
    next hc => exact .close hpc (Bool.eq_false_iff.mpr hc)
  next hpc => cases h; exact .finish hpc

theorem lstep_op {fixed : Bool} {l l' : Listener} {a : LAct} (h : LStep fixed l a l') : l'.op = l.op := by
  cases h <;> simp only [push_op]

/-- `cstep`, one constructor per enabled branch -/
inductive CStep (l : Listener) : CAct → Listener → Prop
  | recv {r : Reply} {rest : List Reply} : l.buf = r :: rest → CStep l .recv { l with buf := rest, got := l.got ++ [r] }
  | cancel : CStep l .cancel { l with ctx := if l.ctx = .live then .canceled else l.ctx }
  | timeout : l.ctx = .live → CStep l .timeout { l with ctx := .deadline }
  | closeSub : CStep l .closeSub { l with subClosed := true }

theorem cstep_inv {l l' : Listener} {a : CAct} (h : cstep l a = some l') : CStep l a l' := by
  cases a <;> simp only [cstep] at h
  case recv =>
    split at h <;> cases h
    exact .recv ‹_›
  case cancel => cases h; exact .cancel
  case timeout =>
    split at h <;> cases h
    exact .timeout ‹_›
  case closeSub => cases h; exact .closeSub

/-- the reply was made from a notification in `P` that carries the listener's own operation id,
    and repeats that notification's result and error text -/
def OwnFrom (P : Notif → Prop) (own : Nat) : Reply → Prop
  | .result op res err => op = own ∧ ∃ n, P n ∧ n.op = own ∧ n.res = res ∧ n.err = err ∧ n.bad = false
  | .unmarshal op => op = own ∧ ∃ n, P n ∧ n.op = own ∧ n.bad = true
  | .timeout _ => True

def pcClosed : Pc → Bool
  | .ret2 | .done => true
  | _ => false

def pcRet : Pc → Bool
  | .ret1 | .ret2 | .done => true
  | _ => false

def sendCount : Pc → Nat
  | .send _ => 1
  | _ => 0

structure LOk (P : Notif → Prop) (l : Listener) : Prop where
  np     : l.panicked = false
  inbox  : ∀ n ∈ l.inbox, P n
  pcs    : ∀ r, l.pc = .send r → OwnFrom P l.op r
  buf    : ∀ r ∈ l.buf, OwnFrom P l.op r
  got    : ∀ r ∈ l.got, OwnFrom P l.op r
  cap    : l.buf.length ≤ 1
  closed : l.chanClosed = pcClosed l.pc
  fin    : l.finishedCalls = if l.pc = .done then 1 else 0
  ctxe   : pcRet l.pc = true → l.ctx ≠ .live
  acks   : l.acked + l.inbox.length = l.delivered
  own    : made l.buf + made l.got + sendCount l.pc ≤ l.ownSeen
  ownd   : l.ownSeen + ownIn l.op l.inbox = l.ownDelivered

theorem ownFrom_mono {P Q : Notif → Prop} (h : ∀ n, P n → Q n) (own : Nat) (r : Reply) :
    OwnFrom P own r → OwnFrom Q own r := by
  cases r with
  | timeout w => exact fun _ => trivial
  | _ => exact fun ⟨h1, n, hn, h2⟩ => ⟨h1, n, h _ hn, h2⟩

theorem lok_mono {P Q : Notif → Prop} (h : ∀ n, P n → Q n) {l : Listener} (hl : LOk P l) : LOk Q l :=
  { hl with
    inbox := fun n hn => h n (hl.inbox n hn)
    pcs := fun r hr => ownFrom_mono h _ _ (hl.pcs r hr)
    buf := fun r hr => ownFrom_mono h _ _ (hl.buf r hr)
    got := fun r hr => ownFrom_mono h _ _ (hl.got r hr) }

theorem lok_new (P : Notif → Prop) (op : Nat) : LOk P (Listener.new op) := by
  constructor <;> simp [Listener.new, pcClosed, pcRet, sendCount]

theorem replyFor_some_op {own : Nat} {n : Notif} {r : Reply} (h : replyFor own n = some r) : n.op = own := by
  unfold replyFor at h
  by_cases h1 : n.op = own
  · exact h1
  · simp [h1] at h

theorem replyFor_none_op {own : Nat} {n : Notif} (h : replyFor own n = none) : n.op ≠ own := by
  unfold replyFor at h
  intro h1
  by_cases h2 : n.bad = true <;> simp [h1, h2] at h

theorem replyFor_own {P : Notif → Prop} {own : Nat} {n : Notif} {r : Reply} (hn : P n)
    (h : replyFor own n = some r) : OwnFrom P own r := by
  have hop := replyFor_some_op h
  unfold replyFor at h
  rw [if_neg (not_not_intro hop)] at h
  cases hb : n.bad <;> simp [hb] at h <;> subst h
  · exact ⟨hop, n, hn, hop, rfl, rfl, hb⟩
  · exact ⟨hop, n, hn, hop, hb⟩

theorem cancel_ne_live (c : Ctx) : (if c = .live then .canceled else c) ≠ Ctx.live := by
  cases c <;> decide

/-- the clauses of `LOk` that read the program counter, with the program counter as a parameter -/
structure AtPc (l : Listener) (pc : Pc) : Prop where
  closed : l.chanClosed = pcClosed pc
  fin    : l.finishedCalls = if pc = .done then 1 else 0
  ctxe   : pcRet pc = true → l.ctx ≠ .live
  own    : made l.buf + made l.got + sendCount pc ≤ l.ownSeen

theorem LOk.atPc {P : Notif → Prop} {l : Listener} {pc : Pc} (hl : LOk P l) (h : l.pc = pc) : AtPc l pc :=
  h ▸ ⟨hl.closed, hl.fin, hl.ctxe, hl.own⟩

/-- each branch names the clauses of `LOk` it touches.  Those that read the program counter are taken from `atPc` at the
    value it had before the step: where the step does not change what they compute to (`pcClosed .loop` and
    `pcClosed .ret0` are both `false`) they fit the new state as they are -/
theorem lok_lstep {P : Notif → Prop} {fixed : Bool} {l l' : Listener} {a : LAct}
    (hl : LOk P l) (h : LStep fixed l a l') : LOk P l' := by
  cases h with
  | ctxReply hpc _ hb | subReply hpc _ _ hb =>
    have hp := hl.atPc hpc
    have hown := hp.own
    rw [push_open _ hp.closed, hb]; rw [hb] at hown
    exact { hp, hl with
      pcs := fun _ h => nomatch h
      buf := fun r hr => by cases List.mem_singleton.mp hr; trivial
      cap := Nat.le_refl 1
      own := hown }
  | ctxNoReply hpc _ _ _ | subNoReply hpc _ _ _ _ => exact { hl.atPc hpc, hl with pcs := fun _ h => nomatch h }
  | @recvOwn n rest r hpc hin hr =>
    have hacks := hl.acks
    have hownd := hl.ownd
    rw [hin, List.length_cons] at hacks
    rw [hin, ownIn_cons, if_pos (replyFor_some_op hr)] at hownd
    exact { hl.atPc hpc, hl with
      inbox := fun m hm => hl.inbox m (hin ▸ List.mem_cons_of_mem _ hm)
      pcs := fun r' hr' => by cases hr'; exact replyFor_own (hl.inbox n (hin ▸ List.mem_cons_self)) hr
      acks := show l.acked + 1 + rest.length = l.delivered by omega
      own := Nat.add_le_add_right (hl.atPc hpc).own 1
      ownd := show l.ownSeen + 1 + ownIn l.op rest = l.ownDelivered by omega }
  | @recvOther n rest hpc hin hr =>
    have hacks := hl.acks
    have hownd := hl.ownd
    rw [hin, List.length_cons] at hacks
    rw [hin, ownIn_cons, if_neg (replyFor_none_op hr)] at hownd
    exact { hl with
      inbox := fun m hm => hl.inbox m (hin ▸ List.mem_cons_of_mem _ hm)
      acks := show l.acked + 1 + rest.length = l.delivered by omega
      ownd := show l.ownSeen + ownIn l.op rest = l.ownDelivered by omega }
  | @send r hpc hb =>
    have hp := hl.atPc hpc
    have hown := hp.own
    rw [push_open _ hp.closed, hb]; rw [hb] at hown
    exact { hp, hl with
      pcs := fun _ h => nomatch h
      buf := fun r' hr' => by cases List.mem_singleton.mp hr'; exact hl.pcs r hpc
      cap := Nat.le_refl 1
      own := by simp only [List.nil_append, made_cons, made_nil, sendCount] at hown ⊢; split <;> omega }
  | sendCtx hpc _ _ =>
    exact { hl.atPc hpc, hl with
      pcs := fun _ h => nomatch h
      own := Nat.le_of_succ_le (hl.atPc hpc).own }
  | cancel hpc =>
    exact { hl.atPc hpc, hl with
      pcs := fun _ h => nomatch h
      ctxe := fun _ => cancel_ne_live l.ctx }
  | closeTwice hpc hc => rw [(hl.atPc hpc).closed] at hc; cases hc
  | close hpc hc =>
    exact { hl.atPc hpc, hl with
      pcs := fun _ h => nomatch h
      closed := rfl }
  | finish hpc =>
    exact { hl.atPc hpc, hl with
      pcs := fun _ h => nomatch h
      fin := congrArg (· + 1) (hl.atPc hpc).fin }

theorem cstep_op {l l' : Listener} {a : CAct} (h : CStep l a l') : l'.op = l.op := by
  cases h <;> rfl

theorem lok_cstep {P : Notif → Prop} {l l' : Listener} {a : CAct}
    (hl : LOk P l) (h : CStep l a l') : LOk P l' := by
  cases h with
  | @recv r rest hb =>
    have hcap := hl.cap
    have hown := hl.own
    rw [hb] at hcap hown
    exact { hl with
      buf := fun x hx => hl.buf x (hb ▸ List.mem_cons_of_mem _ hx)
      got := fun x hx => by
        rcases List.mem_append.mp hx with hx | hx
        · exact hl.got x hx
        · cases List.mem_singleton.mp hx; exact hl.buf r (hb ▸ List.mem_cons_self)
      cap := Nat.le_of_succ_le hcap
      own := by simp only [made_cons, made_append, made_nil] at hown ⊢; omega }
  | cancel => exact { hl with ctxe := fun _ => cancel_ne_live l.ctx }
  | timeout _ => exact { hl with ctxe := nofun }
  | closeSub => exact { hl with }

theorem lok_deliver {P : Notif → Prop} {l : Listener} {n : Notif} (hl : LOk P l) (hn : P n) :
    LOk P { l with inbox := l.inbox ++ [n], delivered := l.delivered + 1,
                   ownDelivered := l.ownDelivered + (if n.op = l.op then 1 else 0) } :=
  have hacks := hl.acks
  have hownd := hl.ownd
  { hl with
    inbox := fun m hm => by
      rcases List.mem_append.mp hm with hm | hm
      · exact hl.inbox m hm
      · cases List.mem_singleton.mp hm; exact hn
    acks := show l.acked + (l.inbox ++ [n]).length = l.delivered + 1 by
      rw [List.length_append, List.length_singleton]; omega
    ownd := show l.ownSeen + ownIn l.op (l.inbox ++ [n]) = l.ownDelivered + (if n.op = l.op then 1 else 0) by
      rw [ownIn_append, ownIn_cons, ownIn_nil]; omega }

/-- what the actions addressed to listener `i` do to it; `pub`: the notifications accepted so far -/
inductive Local (fixed : Bool) (pub : List Notif) (i : Nat) (l : Listener) : Action → Listener → Prop
  | l {a : LAct} {l' : Listener} : LStep fixed l a l' → Local fixed pub i l (.l i a) l'
  | c {a : CAct} {l' : Listener} : CStep l a l' → Local fixed pub i l (.c i a) l'
  | deliver {k : Nat} {n : Notif} : pub[k]? = some n →
      Local fixed pub i l (.deliver i k) { l with inbox := l.inbox ++ [n], delivered := l.delivered + 1,
                                                  ownDelivered := l.ownDelivered + (if n.op = l.op then 1 else 0) }

/-- `act`, one constructor per shape of the post-state -/
inductive Step (fixed : Bool) (s : St) : Action → St → Prop
  | newReq : Step fixed s .newReq { s with ls := s.ls ++ [Listener.new s.nextOp], nextOp := s.nextOp + 1 }
  | process {pre : Pre} {op : Nat} {o : HOut} {p : PubRes} :
      Step fixed s (.process pre op o p)
        { s with invs := s.invs ++ [⟨pre, op, o, p, command s.ackErrs pre op o p⟩],
                 pub := s.pub ++ accepted (command s.ackErrs pre op o p) }
  | upd {i : Nat} {l l' : Listener} {a : Action} : s.ls[i]? = some l → Local fixed s.pub i l a l' →
      Step fixed s a { s with ls := s.ls.set i l' }

theorem updL_some {s s' : St} {i : Nat} {f : Listener → Option Listener} (h : updL s i f = some s') :
    ∃ l l', s.ls[i]? = some l ∧ f l = some l' ∧ s' = { s with ls := s.ls.set i l' } := by
  unfold updL at h
  split at h
  · rename_i l hl
    split at h <;> cases h
    exact ⟨l, _, hl, ‹_›, rfl⟩
  · cases h

theorem act_inv {fixed : Bool} {s s' : St} {a : Action} (h : act fixed s a = some s') : Step fixed s a s' := by
  cases a <;> simp only [act] at h
  case newReq => cases h; exact .newReq
  case process => cases h; exact .process
  case deliver i k =>
    split at h
    · obtain ⟨l, l', hl, hf, rfl⟩ := updL_some h
      cases hf
      exact .upd hl (.deliver ‹_›)
    · cases h
  case l i a =>
    obtain ⟨l, l', hl, hf, rfl⟩ := updL_some h
    exact .upd hl (.l (lstep_inv hf))
  case c i a =>
    obtain ⟨l, l', hl, hf, rfl⟩ := updL_some h
    exact .upd hl (.c (cstep_inv hf))

theorem local_op {fixed : Bool} {pub : List Notif} {i : Nat} {l l' : Listener} {a : Action}
    (h : Local fixed pub i l a l') : l'.op = l.op := by
  cases h with
  | l h => exact lstep_op h
  | c h => exact cstep_op h
  | deliver _ => rfl

theorem lok_local {fixed : Bool} {pub : List Notif} {i : Nat} {l l' : Listener} {a : Action}
    (hl : LOk (· ∈ pub) l) (h : Local fixed pub i l a l') : LOk (· ∈ pub) l' := by
  cases h with
  | l h => exact lok_lstep hl h
  | c h => exact lok_cstep hl h
  | deliver hn => exact lok_deliver hl (List.mem_of_getElem? hn)

/-- what a published notification is: the reply of a handler invocation whose `Publish` was accepted -/
def PubOk (s : St) : Prop :=
  ∀ n ∈ s.pub, ∃ inv ∈ s.invs, inv.pre = .ok ∧ inv.pub = .ok ∧ n = notifOf inv.op inv.out

def InvsOk (s : St) : Prop :=
  ∀ inv ∈ s.invs, inv.effs = command s.ackErrs inv.pre inv.op inv.out inv.pub

structure SOk (s : St) : Prop where
  lok  : ∀ (i : Nat) (l : Listener), s.ls[i]? = some l → LOk (· ∈ s.pub) l ∧ l.op < s.nextOp
  uniq : ∀ (i j : Nat) (li lj : Listener), s.ls[i]? = some li → s.ls[j]? = some lj → li.op = lj.op → i = j
  pub  : PubOk s
  invs : InvsOk s

theorem sok_init (a : Bool) : SOk (init a) := by
  constructor <;> simp [init, PubOk, InvsOk]

theorem sok_step (fixed : Bool) (s : St) (a : Action) (s' : St) (h : SOk s) (ha : act fixed s a = some s') :
    SOk s' := by
  obtain ⟨hlok, huniq, hpub, hinvs⟩ := h
  cases act_inv ha with
  | newReq =>
    -- the new listener's operation id is `nextOp`, above every id in use
    have hnew : ∀ j (x : Listener), s.ls[j]? = some x → x.op ≠ (Listener.new s.nextOp).op :=
      fun j x hx => Nat.ne_of_lt (hlok j x hx).2
    refine ⟨fun j x hx => ?_, fun j k lj lk hj hk hjk => ?_, hpub, hinvs⟩
    · rcases get_append_cases _ _ _ _ hx with ⟨_, hx⟩ | ⟨_, rfl⟩
      · exact ⟨(hlok j x hx).1, Nat.lt_succ_of_lt (hlok j x hx).2⟩
      · exact ⟨lok_new _ _, Nat.lt_succ_self _⟩
    · rcases get_append_cases _ _ _ _ hj with ⟨_, hj'⟩ | ⟨ej, rfl⟩ <;>
        rcases get_append_cases _ _ _ _ hk with ⟨_, hk'⟩ | ⟨ek, rfl⟩
      · exact huniq j k lj lk hj' hk' hjk
      · exact absurd hjk (hnew j lj hj')
      · exact absurd hjk.symm (hnew k lk hk')
      · rw [ej, ek]
  | @process pre op o p =>
    refine ⟨fun j x hx => ?_, huniq, fun n hn => ?_, fun inv hi => ?_⟩
    · exact ⟨lok_mono (fun n hn => List.mem_append_left _ hn) (hlok j x hx).1, (hlok j x hx).2⟩
    · rcases List.mem_append.mp hn with hn | hn
      · obtain ⟨inv, hi, h1⟩ := hpub n hn
        exact ⟨inv, List.mem_append_left _ hi, h1⟩
      · exact ⟨_, List.mem_append_right _ (List.mem_singleton.mpr rfl), accepted_command hn⟩
    · rcases List.mem_append.mp hi with hi | hi
      · exact hinvs inv hi
      · cases List.mem_singleton.mp hi; rfl
  | @upd i l l' a hi hloc =>
    -- listener `i` keeps its operation id and its invariant; the others are untouched
    have hop := local_op hloc
    refine ⟨fun j x hx => ?_, fun j k lj lk hj hk hjk => ?_, hpub, hinvs⟩
    · rcases get_set_cases _ _ _ _ _ hx with ⟨_, rfl⟩ | ⟨_, hx⟩
      · exact ⟨lok_local (hlok i l hi).1 hloc, hop ▸ (hlok i l hi).2⟩
      · exact hlok j x hx
    · rcases get_set_cases _ _ _ _ _ hj with ⟨ej, rfl⟩ | ⟨_, hj'⟩ <;>
        rcases get_set_cases _ _ _ _ _ hk with ⟨ek, rfl⟩ | ⟨_, hk'⟩
      · rw [ej, ek]
      · rw [hop] at hjk; rw [ej]; exact huniq i k l lk hi hk' hjk
      · rw [hop] at hjk; rw [ek]; exact huniq j i lj l hj' hi hjk
      · exact huniq j k lj lk hj' hk' hjk

theorem reach_sok (fixed ackErrs : Bool) : ∀ s, Reach (sys fixed ackErrs) s → SOk s :=
  inv_of_step (sys fixed ackErrs) SOk (sok_init ackErrs) (fun s a s' h ha => sok_step fixed s a s' h ha)

end Wm.ReqReply
