import WmModel.Lemmas.GcDecStep
namespace Wm.GcDec

/-- what is required of a pump in a state: every message it took from the inner channel was forwarded to `out`, or
    dropped (only once `closing` was signalled), or is the one it is offering right now; past `close(out)` its channel is
    recorded as closed -/
def pumpFine (s : St) : Th → Prop
  | .pump k pc r f d =>
    r = f + d + (if pc = PPc.send then 1 else 0) ∧ (0 < d → s.closing = true) ∧
    ((pc = PPc.wgDone ∨ pc = PPc.done) → k ∈ s.outClosed)
  | _ => True

def PumpOk (s : St) : Prop := ∀ (i : Nat) (th : Th), s.ths[i]? = some th → pumpFine s th

theorem pk_init : PumpOk init := fun _ _ h => (init_no_thread h).elim

theorem pumpFine_mono (s u : St) (hc : s.closing = true → u.closing = true)
    (ho : ∀ k, k ∈ s.outClosed → k ∈ u.outClosed) : ∀ th, pumpFine s th → pumpFine u th
  | .pump _ _ _ _ _, ⟨p1, p2, p3⟩ => ⟨p1, fun hd => hc (p2 hd), fun hp => ho _ (p3 hp)⟩
  | .sub _ _, _ | .closer _, _ => trivial

theorem pk_set (s u : St) (i : Nat) (new : Th) (hths : u.ths = s.ths.set i new)
    (hc : s.closing = true → u.closing = true) (ho : ∀ k, k ∈ s.outClosed → k ∈ u.outClosed)
    (hnew : pumpFine u new) (h : PumpOk s) : PumpOk u :=
  fun j th hj => forall_set (fun j th hj => pumpFine_mono s u hc ho th (h j th hj)) i new hnew j th (hths ▸ hj)

theorem pk_append (s u : St) (new : Th) (hths : u.ths = s.ths ++ [new])
    (hc : s.closing = true → u.closing = true) (ho : ∀ k, k ∈ s.outClosed → k ∈ u.outClosed)
    (hnew : pumpFine u new) (h : PumpOk s) : PumpOk u :=
  fun j th hj => forall_append (fun j th hj => pumpFine_mono s u hc ho th (h j th hj)) new hnew j th (hths ▸ hj)

theorem pk_congr (s u : St) (h0 : u.ths = s.ths) (h1 : u.closing = s.closing) (h2 : u.outClosed = s.outClosed)
    (h : PumpOk s) : PumpOk u := by
  intro j th hj
  rw [h0] at hj
  exact pumpFine_mono s u (fun x => h1 ▸ x) (fun _ x => h2 ▸ x) th (h j th hj)

theorem pk_step (s : St) (a : Action) (s' : St) (h : PumpOk s) (ha : act s a = some s') : PumpOk s' := by
  cases step_of_act ha
  case newSub | newClose => exact pk_append s _ _ rfl id (fun _ => id) trivial h
  case push | inClose | panic => exact pk_congr s _ rfl rfl rfl h
  case spawn i k hth =>
    let mid : St := { s with ths := s.ths.set i (Th.sub k .retOk) }
    exact pk_append mid _ _ rfl id (fun _ => id) ⟨rfl, nofun, nofun⟩ (pk_set s mid i _ rfl id (fun _ => id) trivial h)
  case move hth hm =>
    have hold := h _ _ hth
    cases hm
    -- the counters: the `if` in `pumpFine` evaluates, so the old equation is the new one up to the step's increment
    case deliver => exact pk_set s _ _ _ rfl id (fun _ => id) ⟨hold.1.trans (Nat.add_right_comm _ _ 1), hold.2.1, nofun⟩ h
    case pumpRecv => exact pk_set s _ _ _ rfl id (fun _ => id) ⟨congrArg (· + 1) hold.1, hold.2.1, nofun⟩ h
    case pumpEnd => exact pk_set s _ _ _ rfl id (fun _ => id) ⟨hold.1, hold.2.1, nofun⟩ h
    case pumpDrop hc => exact pk_set s _ _ _ rfl id (fun _ => id) ⟨hold.1, fun _ => hc, nofun⟩ h
    case closeOut =>
      exact pk_set s _ _ _ rfl id (fun _ => List.mem_cons_of_mem _) ⟨hold.1, hold.2.1, fun _ => List.mem_cons_self⟩ h
    case wgDone => exact pk_set s _ _ _ rfl id (fun _ => id) ⟨hold.1, hold.2.1, fun _ => hold.2.2 (Or.inl rfl)⟩ h
    case once => exact pk_set s _ _ _ rfl (fun _ => rfl) (fun _ => id) trivial h
    all_goals exact pk_set s _ _ _ rfl id (fun _ => id) trivial h

end Wm.GcDec
