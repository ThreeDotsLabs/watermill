/-
  C05 – "each already-existing subscription receives one publisher's messages in the order they were published"
  (blocking mode), subscription side (model M_sub): the deliveries a subscription makes are grouped by sender goroutine and
  ordered like the senders' lock tenures.  In particular every delivery of a publication whose sender has ended lies before
  every delivery of a publication whose sender ended later or has not ended; in blocking mode Publish starts the sender for
  its next message only after the previous one has ended (M_reg `blocking_order`, M_prod
  `blocking_publish_returns_only_after_ack`), so one publisher's messages reach the consumer in publishing order.
-/
import WmModel.Lemmas.GcSubOrd
import WmModel.Props.C04Exit
namespace Wm.GcSub
open Wm.Lts

theorem reach_ord (cap : Nat) : ∀ s, Reach (sys cap) s → OrdOk s :=
  inv_of_step' (sys cap) OrdOk (ord_init cap) (fun s a s' hr h ha => ord_step s a s' (reach_ctl cap s hr) h ha)

/-- **deliveries follow the order in which the senders ended**: if the sender of publication `p` has ended and the sender of
    `p'` has not (it was started later, or is still at work), every delivery of `p` comes before every delivery of `p'` -/
theorem ended_sender_deliveries_first (cap : Nat) (s : St) (h : Reach (sys cap) s) (p p' : Nat) (r : Exit)
    (hp : (p, r) ∈ s.exits) (hp' : ∀ r', (p', r') ∉ s.exits)
    (i j : Nat) (ci cj : Copy) (hi : s.copies[i]? = some ci) (hj : s.copies[j]? = some cj)
    (hpi : ci.pub = p) (hpj : cj.pub = p') : i < j := by
  have hne : p ≠ p' := by intro hx; subst hx; exact hp' r hp
  rcases Nat.lt_trichotomy i j with hlt | heq | hgt
  · exact hlt
  · subst heq; rw [hi] at hj; cases hj; exact absurd (hpi.symm.trans hpj) hne
  · -- then the copy of `p'` would be the earlier one and `p'` would have ended
    obtain ⟨⟨r', h1⟩, _⟩ := (reach_ord cap s h).1 j i cj ci hgt hj hi (by rw [hpi, hpj]; exact hne.symm)
    rw [hpj] at h1; exact absurd h1 (hp' r')

/-- … and of two ended senders the one that ended first has all its deliveries first -/
theorem deliveries_in_exit_order (cap : Nat) (s : St) (h : Reach (sys cap) s) (a b : Nat) (p p' : Nat) (r r' : Exit)
    (hab : a < b) (ha : s.exits[a]? = some (p, r)) (hb : s.exits[b]? = some (p', r'))
    (i j : Nat) (ci cj : Copy) (hi : s.copies[i]? = some ci) (hj : s.copies[j]? = some cj)
    (hpi : ci.pub = p) (hpj : cj.pub = p') : i < j := by
  -- a publication has one position in the exit order
  have pos : ∀ {x y q : Nat} {r3 r4 : Exit}, s.exits[x]? = some (q, r3) → s.exits[y]? = some (q, r4) → x = y := by
    intro x y q r3 r4 hx hy
    refine (List.getElem?_inj (l := s.exits.map (·.1)) ?_ (reach_exit cap s h).2.2.2.2).mp ?_
    · rw [List.length_map]; exact (List.getElem?_eq_some_iff.mp hx).1
    · rw [List.getElem?_map, List.getElem?_map, hx, hy]; rfl
  have hne : p ≠ p' := fun hx => Nat.ne_of_lt hab (pos ha (hx ▸ hb))
  rcases Nat.lt_trichotomy i j with hlt | heq | hgt
  · exact hlt
  · subst heq; rw [hi] at hj; cases hj; exact absurd (hpi.symm.trans hpj) hne
  · obtain ⟨_, h2⟩ := (reach_ord cap s h).1 j i cj ci hgt hj hi (by rw [hpi, hpj]; exact hne.symm)
    rw [hpi, hpj] at h2
    rcases h2 with ⟨pc, c, h2⟩ | ⟨a', b', r1, r2, hab', ha', hb'⟩
    · -- `p` would still hold the lock although it has ended
      exact absurd h2 (((reach_exit cap s h).2.2.2.1 p r (List.mem_of_getElem? ha)).2.2 pc c)
    · -- `p'` before `p` in the exit order, and `p` before `p'`
      rw [pos ha' hb, pos hb' ha] at hab'
      exact absurd hab (Nat.lt_asymm hab')

/-- non-vacuity: two publications, the first nacked once and acked, then the second: copies 0,1 belong to the first, 2 to the second -/
example : ∃ s, exec (sys 1) (init 1) [.spawn, .spawn, .sLock 0, .sCheck, .sTop, .sSend, .recv, .settle 0 .nack, .sObsNack, .sTop,
    .sSend, .recv, .settle 1 .ack, .sObsAck, .sLock 0, .sCheck, .sTop, .sSend] = some s ∧
    s.copies.map (·.pub) = [0, 0, 1] ∧ s.exits = [(0, .acked)] := ⟨_, rfl, by decide, by decide⟩

end Wm.GcSub
