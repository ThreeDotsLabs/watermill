/-
  `UnsOk`, the invariant behind "one unsettled message per subscription": an unsettled copy is the one the lock holder
  waits for, or the subscription is closing and no sender is past the check.
-/
import WmModel.Lemmas.GcSubCtl
import WmModel.Lemmas.ListIdx
namespace Wm.GcSub
open Wm.Ack (Sent)

/-! ### how `UnsC` reacts to the updates of `copies`: a new copy; `modify`, in general and for the three kinds of
    functions the model applies (one that touches neither `delivered` nor `settle`, a delivery, a settlement) -/

theorem unsC_append_fresh (cs : List Copy) (p c : Nat) :
    UnsC (cs ++ [⟨p, false, false, .none⟩]) c ↔ UnsC cs c :=
  exists_append_iff (P := fun cp : Copy => cp.delivered = true ∧ cp.settle = .none) (fun h => Bool.false_ne_true h.1) c

theorem unsC_modify (cs : List Copy) (c0 c : Nat) (f : Copy → Copy) :
    UnsC (cs.modify c0 f) c ↔ ∃ cp, cs[c]? = some cp ∧
      (if c0 = c then f cp else cp).delivered = true ∧ (if c0 = c then f cp else cp).settle = .none := by
  unfold UnsC
  rw [List.getElem?_modify]
  cases cs[c]? <;> simp

theorem unsC_modify_frame (cs : List Copy) (c0 c : Nat) (f : Copy → Copy)
    (hf : ∀ cp, (f cp).delivered = cp.delivered ∧ (f cp).settle = cp.settle) :
    UnsC (cs.modify c0 f) c ↔ UnsC cs c := by
  rw [unsC_modify]
  refine exists_congr fun cp => and_congr_right fun _ => ?_
  split
  · rw [(hf cp).1, (hf cp).2]
  · rfl

theorem unsC_modify_deliver (cs : List Copy) (c0 c : Nat) (f : Copy → Copy)
    (hf : ∀ cp, (f cp).delivered = true ∧ (f cp).settle = cp.settle) :
    UnsC (cs.modify c0 f) c ↔
      UnsC cs c ∨ (c = c0 ∧ ∃ cp, cs[c0]? = some cp ∧ cp.settle = .none) := by
  rw [unsC_modify]
  by_cases e : c0 = c
  · subst e
    simp only [↓reduceIte, hf, true_and]
    exact ⟨Or.inr, fun h => h.elim (fun ⟨cp, h1, _, h3⟩ => ⟨cp, h1, h3⟩) id⟩
  · simp only [if_neg e]
    exact ⟨Or.inl, fun h => h.elim id (fun h => absurd h.1.symm e)⟩

theorem unsC_modify_settle (cs : List Copy) (c0 c : Nat) (v : Sent) (hv : v ≠ .none) :
    UnsC (cs.modify c0 (fun cp => { cp with settle := if cp.settle = .none then v else cp.settle })) c ↔
      UnsC cs c ∧ c ≠ c0 := by
  rw [unsC_modify]
  by_cases e : c0 = c
  · subst e
    refine ⟨fun ⟨cp, _, _, h3⟩ => ?_, fun h => absurd rfl h.2⟩
    rw [if_pos rfl] at h3
    dsimp only at h3
    split at h3
    · exact absurd h3 hv
    · contradiction
  · simp only [if_neg e]
    exact ⟨fun h => ⟨h, fun e' => e e'.symm⟩, fun h => h.1⟩

def UnsOk (s : St) : Prop :=
  (∀ p c, s.holder = .sender p .sendSel c → ∃ cp, s.copies[c]? = some cp ∧ cp.delivered = false) ∧
  (∀ c, Unsettled s c →
      (∃ p, s.holder = .sender p .waitSettle c) ∨
      (s.closing = true ∧ ∀ p pc c', s.holder = .sender p pc c' → pc = .check)) ∧
  (∀ c1 c2, Unsettled s c1 → Unsettled s c2 → c1 = c2)

theorem uns_init (cap : Nat) : UnsOk (init cap) :=
  ⟨nofun, fun _ ⟨_, h, _⟩ => init_no_copy h, fun _ _ ⟨_, h, _⟩ => init_no_copy h⟩

/-- a sender that is not waiting for a settlement holds the lock ⇒ nothing is unsettled -/
theorem no_uns_of_sender {s : St} (h : UnsOk s) {p c : Nat} {pc : SPc}
    (hh : s.holder = .sender p pc c) (hpc : pc ≠ .waitSettle) (hpc2 : pc ≠ .check) (c' : Nat) : ¬ Unsettled s c' := by
  intro hu
  rcases h.2.1 c' hu with ⟨p', h1⟩ | ⟨_, h2⟩
  · rw [hh] at h1; injection h1 with _ h3 _; exact hpc h3
  · exact hpc2 (h2 p pc c hh)

theorem uns_eq_cur {s : St} (h : UnsOk s) {p c : Nat}
    (hh : s.holder = .sender p .waitSettle c) {c' : Nat} (hu : Unsettled s c') : c' = c := by
  rcases h.2.1 c' hu with ⟨p', h1⟩ | ⟨_, h2⟩
  · rw [hh] at h1; injection h1 with _ _ h3; exact h3.symm
  · cases h2 p _ c hh

/-- no sender waits for a settlement: only a closing subscription has an unsettled copy -/
theorem closing_of_uns {s : St} (h : UnsOk s) (hh : ∀ p c, s.holder ≠ .sender p .waitSettle c) {c : Nat}
    (hu : Unsettled s c) : s.closing = true :=
  (h.2.1 c hu).elim (fun ⟨p, h1⟩ => absurd h1 (hh p c)) (fun h2 => h2.1)

/-- nothing unsettled ⇒ the two "unsettled" clauses hold whatever holder/closing are -/
theorem unsOk_of_none {s' : St}
    (h1 : ∀ p c, s'.holder = .sender p .sendSel c → ∃ cp, s'.copies[c]? = some cp ∧ cp.delivered = false)
    (hn : ∀ c, ¬ Unsettled s' c) : UnsOk s' :=
  ⟨h1, fun c hu => absurd hu (hn c), fun c1 _ hu _ => absurd hu (hn c1)⟩

/-- the lock goes to a holder that is not past the check: allowed with an unsettled copy only while closing -/
theorem unsOk_holder {s t : St} (h : UnsOk s) (hc : t.copies = s.copies) (hcl : t.closing = s.closing)
    (hx : ∀ p pc c, t.holder = .sender p pc c → pc = .check) (hu : ∀ c, Unsettled s c → s.closing = true) : UnsOk t := by
  unfold UnsOk Unsettled
  rw [hc, hcl]
  exact ⟨fun p c e => (nomatch hx p _ c e), fun c hc => Or.inr ⟨hu c hc, hx⟩, h.2.2⟩

/-- the holder puts its copy into the channel: that copy is the one unsettled copy -/
theorem unsOk_deliver {s t : St} (h : UnsOk s) {p c : Nat} (hh : s.holder = .sender p .sendSel c) {f : Copy → Copy}
    (hc : t.copies = s.copies.modify c f) (ht : t.holder = .sender p .waitSettle c)
    (hf : ∀ cp, (f cp).delivered = true ∧ (f cp).settle = cp.settle) : UnsOk t := by
  have cur : ∀ c', UnsC (s.copies.modify c f) c' → c' = c := fun c' hu =>
    ((unsC_modify_deliver s.copies c c' f hf).mp hu).elim
      (fun hu' => absurd hu' (no_uns_of_sender h hh nofun nofun c')) (fun hc => hc.1)
  unfold UnsOk Unsettled
  rw [hc, ht]
  exact ⟨nofun, fun c' hu => Or.inl ⟨p, by rw [cur c' hu]⟩, fun c1 c2 h1 h2 => (cur c1 h1).trans (cur c2 h2).symm⟩

/-- a step of the consumer: `delivered` stays, no copy becomes unsettled -/
theorem unsOk_modify {s t : St} (h : UnsOk s) {c0 : Nat} {f : Copy → Copy} (hc : t.copies = s.copies.modify c0 f)
    (hh : t.holder = s.holder) (hcl : t.closing = s.closing) (hd : ∀ cp, (f cp).delivered = cp.delivered)
    (hu : ∀ c, UnsC (s.copies.modify c0 f) c → UnsC s.copies c) : UnsOk t := by
  unfold UnsOk Unsettled
  rw [hc, hh, hcl]
  refine ⟨fun p c hh => ?_, fun c hc => h.2.1 c (hu c hc), fun c1 c2 h1 h2 => h.2.2 c1 c2 (hu c1 h1) (hu c2 h2)⟩
  obtain ⟨cp, h1, h2⟩ := h.1 p c hh
  refine ⟨_, by rw [List.getElem?_modify, h1]; rfl, ?_⟩
  split
  · rw [hd]; exact h2
  · exact h2

theorem uns_step (s : St) (a : Action) (s' : St) (hc : CtlOk s) (h : UnsOk s) (ha : act s a = some s') :
    UnsOk s' := by
  have ⟨u1, u2, u3⟩ := h
  cases step_of_act ha with
  | sLock hf _ =>
    exact unsOk_holder h rfl rfl (fun _ _ _ e => by cases e; rfl) (fun _ => closing_of_uns h (by rw [hf]; nofun))
  | tdLock _ hf => exact unsOk_holder h rfl rfl nofun (fun _ => closing_of_uns h (by rw [hf]; nofun))
  | tdClose htd _ =>
    -- the closer holds the lock
    exact unsOk_holder h rfl rfl nofun (fun _ => closing_of_uns h (by rw [hc.2.2.2.2.1.mpr htd]; nofun))
  | leave hh hl =>
    refine unsOk_holder h rfl rfl nofun fun c' hu => ?_
    cases hl with
    | check hcl | obsClosing hcl => exact hcl
    | top _ | sendClosing _ => exact absurd hu (no_uns_of_sender h hh nofun nofun c')
    | obsAck hcp hack =>
      -- the one copy that could be unsettled is acked
      obtain ⟨cp', h1, _, h3⟩ := uns_eq_cur h hh hu ▸ hu
      rw [hcp] at h1; cases h1
      rw [hack] at h3; cases h3
  | sCheck hh hcl =>
    refine unsOk_of_none nofun fun c hu => ?_
    rw [closing_of_uns h (by rw [hh]; nofun) hu] at hcl; cases hcl
  | sTop hh _ =>
    refine unsOk_of_none (fun _ _ e => ?_) fun c hu => no_uns_of_sender h hh nofun nofun c ((unsC_append_fresh _ _ _).mp hu)
    cases e
    exact ⟨_, List.getElem?_concat_length, rfl⟩
  | sObsNack hh hcp hn =>
    refine unsOk_of_none nofun fun c' hu => ?_
    obtain ⟨cp', h1, _, h3⟩ := uns_eq_cur h hh hu ▸ hu
    rw [hcp] at h1; cases h1
    rw [hn] at h3; cases h3
  | sendDirect hh _ _ | sendBuf hh _ _ _ => exact unsOk_deliver h hh rfl rfl (fun _ => ⟨rfl, rfl⟩)
  | recv _ =>
    exact unsOk_modify h rfl rfl rfl (fun _ => rfl)
      (fun c => (unsC_modify_frame _ _ c (fun cp => { cp with received := true }) (fun _ => ⟨rfl, rfl⟩)).mp)
  | settle _ _ hv =>
    exact unsOk_modify h rfl rfl rfl (fun _ => rfl) (fun c hu => ((unsC_modify_settle _ _ c _ hv).mp hu).1)
  | tdStart _ _ _ _ => exact ⟨u1, fun c hu => (u2 c hu).imp id (fun hr => ⟨rfl, hr.2⟩), u3⟩
  | _ => exact h

end Wm.GcSub
