/-
  `ExitOk`: why sender goroutines ended, and that each ends at most once.
-/
import WmModel.Lemmas.GcSubRed
namespace Wm.GcSub
open Wm.Ack (Sent)

/-- some delivery of publication `p` was acked -/
def AckedCopy (cs : List Copy) (p : Nat) : Prop := ∃ (c : Nat) (cp : Copy), cs[c]? = some cp ∧ cp.pub = p ∧ cp.settle = .ack

/-- why sender goroutines ended: `acked` only after an acked delivery of that publication, `closing`/`closed` only when
    the subscription is; every publication's sender ends at most once and is gone afterwards -/
def ExitOk (s : St) : Prop :=
  (∀ p, (p, Exit.acked) ∈ s.exits → AckedCopy s.copies p) ∧
  (∀ p, (p, Exit.closing) ∈ s.exits → s.closing = true) ∧
  (∀ p, (p, Exit.closed) ∈ s.exits → s.closed = true) ∧
  (∀ p r, (p, r) ∈ s.exits → p < s.nextPub ∧ p ∉ s.waiting ∧ ∀ pc c, s.holder ≠ .sender p pc c) ∧
  (s.exits.map (·.1)).Nodup

theorem ex_init (cap : Nat) : ExitOk (init cap) := by simp [ExitOk, init]

theorem acked_modify (cs : List Copy) (c0 : Nat) (f : Copy → Copy)
    (hf : ∀ cp, (f cp).pub = cp.pub ∧ (cp.settle = .ack → (f cp).settle = .ack)) (p : Nat)
    (h : AckedCopy cs p) : AckedCopy (cs.modify c0 f) p := by
  obtain ⟨c, cp, hc, hp, ha⟩ := h
  refine ⟨c, _, by rw [List.getElem?_modify, hc]; rfl, ?_⟩
  split
  · exact ⟨(hf cp).1.trans hp, (hf cp).2 ha⟩
  · exact ⟨hp, ha⟩

theorem acked_append (cs : List Copy) (x : Copy) (p : Nat) (h : AckedCopy cs p) : AckedCopy (cs ++ [x]) p := by
  obtain ⟨c, cp, hc, hp, ha⟩ := h
  exact ⟨c, cp, append_get_of_get _ _ _ _ hc, hp, ha⟩

/-- a step that does not end a sender: what the clauses read may only grow -/
theorem ex_keep {s u : St} (h : ExitOk s) (he : u.exits = s.exits)
    (hcop : ∀ p, AckedCopy s.copies p → AckedCopy u.copies p)
    (hcl : s.closing = true → u.closing = true) (hcd : s.closed = true → u.closed = true)
    (hn : s.nextPub ≤ u.nextPub)
    (hw : ∀ p, p ∈ u.waiting → p ∈ s.waiting ∨ s.nextPub ≤ p)
    (hh : ∀ p pc c, u.holder = .sender p pc c → (∃ pc' c', s.holder = .sender p pc' c') ∨ p ∈ s.waiting) : ExitOk u := by
  obtain ⟨x1, x2, x3, x4, x5⟩ := h
  unfold ExitOk
  rw [he]
  refine ⟨fun p hp => hcop p (x1 p hp), fun p hp => hcl (x2 p hp), fun p hp => hcd (x3 p hp), fun p r hp => ?_, x5⟩
  obtain ⟨a1, a2, a3⟩ := x4 p r hp
  refine ⟨Nat.lt_of_lt_of_le a1 hn, fun hpw => ?_, fun pc c hu => ?_⟩
  · exact (hw p hpw).elim a2 (fun h1 => Nat.lt_irrefl _ (Nat.lt_of_lt_of_le a1 h1))
  · exact (hh p pc c hu).elim (fun ⟨pc', c', h1⟩ => a3 pc' c' h1) a2

/-- the lock holder's sender ends -/
theorem ex_exit {s : St} (h : ExitOk s) {p c : Nat} {pc : SPc} {a : Action} {r : Exit} (hh : s.holder = .sender p pc c)
    (hred : RedOk s) (hl : Leaves s c pc a r) : ExitOk (exitSender s p r) := by
  obtain ⟨x1, x2, x3, x4, x5⟩ := h
  obtain ⟨r1, r2, _, r4⟩ := hred.2.1 p pc c hh
  have hr : (r = .acked → AckedCopy s.copies p) ∧ (r = .closing → s.closing = true) ∧ (r = .closed → s.closed = true) := by
    cases hl with
    | check hcl | sendClosing hcl | obsClosing hcl => exact ⟨nofun, fun _ => hcl, nofun⟩
    | top hcd => exact ⟨nofun, nofun, fun _ => hcd⟩
    | obsAck hc hack =>
      -- the acked copy is the holder's current one, a copy of its publication
      obtain ⟨_, cp', hc', hpub⟩ := r4 (.inr rfl)
      rw [hc] at hc'; cases hc'
      exact ⟨fun _ => ⟨c, _, hc, hpub, hack⟩, nofun, nofun⟩
  have old : ∀ {q r'}, (q, r') ∈ s.exits ++ [(p, r)] → (q, r') ∈ s.exits ∨ (q = p ∧ r' = r) := fun hq =>
    (List.mem_append.mp hq).imp_right fun e => Prod.mk.inj (List.mem_singleton.mp e)
  refine ⟨fun q hq => ?_, fun q hq => ?_, fun q hq => ?_, fun q r' hq => ?_, ?_⟩
  · rcases old hq with hq | ⟨rfl, e⟩
    · exact x1 q hq
    · exact hr.1 e.symm
  · rcases old hq with hq | ⟨rfl, e⟩
    · exact x2 q hq
    · exact hr.2.1 e.symm
  · rcases old hq with hq | ⟨rfl, e⟩
    · exact x3 q hq
    · exact hr.2.2 e.symm
  · rcases old hq with hq | ⟨rfl, _⟩
    · exact ⟨(x4 q r' hq).1, (x4 q r' hq).2.1, nofun⟩
    · exact ⟨r1, r2, nofun⟩
  · show ((s.exits ++ [(p, r)]).map (·.1)).Nodup
    rw [List.map_append, List.nodup_append]
    refine ⟨x5, by simp, fun a ha b hb => ?_⟩
    cases List.mem_singleton.mp hb
    obtain ⟨⟨q, r'⟩, hm, rfl⟩ := List.mem_map.mp ha
    -- a publication that has ended does not hold the lock
    exact fun (e : q = p) => (x4 q r' hm).2.2 pc c (e ▸ hh)

theorem ex_step (s : St) (a : Action) (s' : St) (hred : RedOk s) (h : ExitOk s) (ha : act s a = some s') : ExitOk s' := by
  -- nothing changes but copies (keeping their acks), flags going up, and the holder's program counter
  have keep : ∀ {u : St}, u.exits = s.exits → (∀ p, AckedCopy s.copies p → AckedCopy u.copies p) →
      (s.closing = true → u.closing = true) → (s.closed = true → u.closed = true) → u.nextPub = s.nextPub →
      u.waiting = s.waiting → (∀ p pc c, u.holder = .sender p pc c → ∃ pc' c', s.holder = .sender p pc' c') → ExitOk u :=
    fun e0 e1 e2 e3 e4 e5 e6 => ex_keep h e0 e1 e2 e3 (Nat.le_of_eq e4.symm) (fun p hp => .inl (e5 ▸ hp))
      (fun p pc c hu => .inl (e6 p pc c hu))
  cases step_of_act ha with
  | spawn =>
    refine ex_keep h rfl (fun _ => id) id id (Nat.le_succ _) (fun p hp => ?_) (fun p pc c hu => .inl ⟨pc, c, hu⟩)
    exact (List.mem_append.mp hp).imp_right fun e => Nat.le_of_eq (List.mem_singleton.mp e).symm
  | sLock _ hk =>
    refine ex_keep h rfl (fun _ => id) id id (Nat.le_refl _) (fun q hq => .inl (List.mem_of_mem_eraseIdx hq)) ?_
    intro q pc c hu
    cases hu
    exact .inr (List.mem_of_getElem? hk)
  | leave hh hl => exact ex_exit h hh hred hl
  | sCheck hh _ | sObsNack hh _ _ =>
    exact keep rfl (fun _ => id) id id rfl rfl (fun _ _ _ e => by cases e; exact ⟨_, _, hh⟩)
  | sTop hh _ =>
    exact keep rfl (acked_append _ _) id id rfl rfl (fun _ _ _ e => by cases e; exact ⟨_, _, hh⟩)
  | sendDirect hh _ _ | sendBuf hh _ _ _ =>
    exact keep rfl (acked_modify _ _ _ (fun _ => ⟨rfl, id⟩)) id id rfl rfl (fun _ _ _ e => by cases e; exact ⟨_, _, hh⟩)
  | recv _ => exact keep rfl (acked_modify _ _ _ (fun _ => ⟨rfl, id⟩)) id id rfl rfl (fun _ pc c e => ⟨pc, c, e⟩)
  | settle _ _ _ =>
    exact keep rfl (acked_modify _ _ _ (fun cp => ⟨rfl, fun hack => settle_settled hack nofun⟩)) id id rfl rfl
      (fun _ pc c e => ⟨pc, c, e⟩)
  | tdStart _ _ _ _ => exact keep rfl (fun _ => id) (fun _ => rfl) id rfl rfl (fun _ pc c e => ⟨pc, c, e⟩)
  | tdLock _ _ => exact keep rfl (fun _ => id) id id rfl rfl nofun
  | tdClose _ _ => exact keep rfl (fun _ => id) id (fun _ => rfl) rfl rfl nofun
  | _ => exact h

end Wm.GcSub
