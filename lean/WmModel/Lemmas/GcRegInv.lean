import WmModel.Lemmas.GcRegStep
import WmModel.Lemmas.ListIdx
import WmModel.Lts
/-
  What the invariants of M_reg have in common: the classifiers of threads their frame lemmas ask about, and induction
  along `Step`.  Each invariant of a state (`W1`, `RsOk`, …) is a predicate (`W1On`, `RsOn`, …) of the fields it reads,
  so a frame lemma speaks of a thread table updated at one index (`l.set i new`) or extended by an entry
  (`l ++ [new]`) and applies to the post-state of a step whatever else that step changed.  `W1` is the first of them.
-/
namespace Wm.GcReg

variable {s s' : St} {a : Action} {i : Nat} {old new : Th} {l : List Th} {ann : Option Nat}

def sys (cfg : Cfg) : Lts.Sys St Action := { init := init cfg, act := act }

/-- every invariant of M_reg is shown by induction along `Step` -/
theorem inv_of_Step (cfg : Cfg) (I : St → Prop) (h0 : I (init cfg))
    (hs : ∀ {s a s'}, Lts.Reach (sys cfg) s → I s → Step s a s' → I s') : ∀ s, Lts.Reach (sys cfg) s → I s :=
  Lts.inv_of_step' (sys cfg) I h0 (fun _ _ _ hr h ha => hs hr h (step_of_act ha))

/-- thread has announced itself as writer (holds the RWMutex's writer mutex) -/
def holdsW : Th → Bool
  | .sub _ _ .drain | .sub _ _ .tlock | .sub _ _ .register => true
  | .td _ _ .drain | .td _ _ .tlock | .td _ _ .remove => true
  | _ => false

theorem holdsW_pub (t : Nat) (r : List Nat) (pc : PPc) (ao : Option (Nat × Nat)) : holdsW (.pub t r pc ao) = false := rfl
theorem holdsW_closer (pc : CPc) : holdsW (.closer pc) = false := rfl

/-- thread accounts for one unit of `subscribersWg` -/
def needsDone : Th → Bool
  | .sub _ _ .wqueue | .sub _ _ .announce | .sub _ _ .drain | .sub _ _ .tlock => true
  | .td _ _ .done => false
  | .td _ _ _ => true
  | _ => false

def isSubOrTd : Th → Bool
  | .sub _ _ _ | .td _ _ _ => true
  | _ => false

theorem holdsW_of_not (th : Th) (h : isSubOrTd th = false) : holdsW th = false := by
  cases th <;> simp_all [isSubOrTd, holdsW]

def isTd : Th → Bool
  | .td _ _ _ => true
  | _ => false

def isCloser : Th → Bool
  | .closer _ => true
  | _ => false

/-- a Publish call inside `waitForAckFromSubscribers` -/
def isWait : Th → Bool
  | .pub _ _ (.wait _) _ => true
  | _ => false

/-- a Subscribe call inside its critical region, subscriber created and not yet registered -/
def atRegister : Th → Bool
  | .sub _ _ .register => true
  | _ => false

/-- a Subscribe found at `register` after thread `i` became `new`, which is not one, was there before -/
theorem reg_back_set {j t sid : Nat} (hn : atRegister new = false)
    (hj : (l.set i new)[j]? = some (Th.sub t sid .register)) : l[j]? = some (Th.sub t sid .register) := by
  rcases get_set_cases _ _ _ _ _ hj with ⟨_, e⟩ | ⟨_, hj'⟩
  · rw [← e] at hn; cases hn
  · exact hj'

theorem reg_back_append {j t sid : Nat} (hn : atRegister new = false)
    (hj : (l ++ [new])[j]? = some (Th.sub t sid .register)) : l[j]? = some (Th.sub t sid .register) := by
  rcases get_append_cases _ _ _ _ hj with ⟨_, hj'⟩ | ⟨_, e⟩
  · exact hj'
  · rw [← e] at hn; cases hn

theorem mem_subsOf (s : St) (t sid : Nat) : sid ∈ subsOf s t ↔ (sid, t) ∈ s.subs := by
  simp [subsOf]

/-- with the entry at `i` known, "the entry at `i` satisfies `P`" is `P` of that entry -/
theorem exists_get_iff {α : Type} {l : List α} {i : Nat} {x : α} (hx : l[i]? = some x) (P : α → Prop) :
    (∃ y, l[i]? = some y ∧ P y) ↔ P x :=
  ⟨fun ⟨_, e, hp⟩ => Option.some.inj (hx.symm.trans e) ▸ hp, fun hp => ⟨x, hx, hp⟩⟩

def W1On (l : List Th) (ann : Option Nat) : Prop :=
  ∀ (i : Nat) (th : Th), l[i]? = some th → holdsW th = true → ann = some i

/-- W1: a thread past `announce` is the announced writer (so there is at most one) -/
def W1 (s : St) : Prop := W1On s.ths s.ann

theorem w1_init (cfg : Cfg) : W1 (init cfg) := by simp [W1, W1On, init]

theorem w1_unique {i j : Nat} {a b : Th} (h : W1On l ann) (hi : l[i]? = some a) (ha : holdsW a = true)
    (hj : l[j]? = some b) (hb : holdsW b = true) : i = j :=
  Option.some.inj ((h i a hi ha).symm.trans (h j b hj hb))

theorem w1_append (h : W1On l ann) (hn : holdsW new = false) : W1On (l ++ [new]) ann :=
  forall_append h _ (fun hw => by rw [hn] at hw; cases hw)

theorem w1_set_keep (h : W1On l ann) (hold : l[i]? = some old) (hw : holdsW old = true ∨ holdsW new = false) :
    W1On (l.set i new) ann :=
  forall_set h _ _ (fun hwj => h i old hold (hw.resolve_right (by rw [hwj]; exact Bool.noConfusion)))

/-- thread `i` announces: `ann` was free, so nobody else is past `announce` -/
theorem w1_set_announce (h : W1On l ann) (hfree : ann = none) : W1On (l.set i new) (some i) :=
  forall_set (fun j th hj hwj => absurd ((h j th hj hwj).symm.trans hfree) (Option.some_ne_none j)) _ _ (fun _ => rfl)

/-- thread `i`, the only one past `announce`, leaves the write path: whatever `ann` becomes, nobody is past `announce` -/
theorem w1_set_release {ann' : Option Nat} (h : W1On l ann) (hold : l[i]? = some old)
    (hwo : holdsW old = true) (hwn : holdsW new = false) : W1On (l.set i new) ann' := by
  intro j th hj hwj
  rcases get_set_cases _ _ _ _ _ hj with ⟨_, hth⟩ | ⟨hji, hj'⟩
  · subst hth; rw [hwn] at hwj; cases hwj
  · exact absurd (w1_unique h hj' hwj hold hwo) hji

theorem w1_step (h : W1 s) (hs : Step s a s') : W1 s' := by
  cases hs with
  | newPub | newPubNested | newSub | newClose => exact w1_append h rfl
  | cancel | senderDone | panic => exact h
  | subTlock i t hth => exact w1_append (w1_set_keep h hth (.inl rfl)) rfl
  | thread hth hm =>
    cases hm with
    | subAnnounce hfree | tdAnnounce hfree => exact w1_set_announce h hfree
    | subRegister | tdRemove => exact w1_set_release h hth rfl rfl
    | subDrain | tdDrain | tdTlock => exact w1_set_keep h hth (.inl rfl)
    | _ => exact w1_set_keep h hth (.inr rfl)

end Wm.GcReg
