/-
  C14 – generated tie: the bodies of `mapExpiringKeyRepository.IsDuplicate`, `cleanOut`, the middleware closure and the
  decorator's `Publish`, extracted from the current Go source and interpreted (`WmModel/GoDedup.lean`), equal the
  hand-written model for every repository, key, clock reading and answer list; and `IsDuplicate` is one critical section.
  `WmModel/Gen/DedupBody.lean` is rewritten by the extractor on every run.
  Proofs split the input where the interpreter consults it; then both sides compute: `rfl` after a split into
  constructors, `simp` with the interpreter's equations where the case is a hypothesis about an opaque test.
-/
import WmModel.GoDedup
import WmModel.Gen.DedupBody
import WmModel.Lemmas.Dedup
set_option linter.unusedSectionVars false
set_option linter.unusedSimpArgs false
namespace Wm.GoDedup
open Wm.Dedup

variable {κ : Type} [DecidableEq κ]

theorem setKey_absent (r : Repo κ) (k : κ) (e : Nat) (h : present r k = false) : setKey r k e = (k, e) :: r := by
  unfold setKey
  congr 1
  rw [List.filter_eq_self]
  intro x hx
  by_cases hk : x.1 = k
  · exact absurd (hk ▸ hx) (present_false_iff.mp h x.2)
  · simp [hk]

/-- what the source of `IsDuplicate` says now, interpreted with lock discipline, is the model's `isDup` … -/
theorem extracted_isDuplicate_eq_model (w : Nat) (r : Repo κ) (k : κ) (now : Nat) :
    (execIsDup Gen.isDuplicateBody w r k now).map (·.1) = some (isDup w r k now) := by
  cases hp : present r k with
  | true => simp [execIsDup, Gen.isDuplicateBody, execRTop, execRs, execR1, hp, isDup]
  | false => simp [execIsDup, Gen.isDuplicateBody, execRTop, execRs, execR1, hp, isDup, setKey_absent r k _ hp]

/-- … and the call takes the mutex exactly once: lookup and insert are in the same critical section on every path -/
theorem extracted_isDuplicate_one_section (w : Nat) (r : Repo κ) (k : κ) (now : Nat) :
    (execIsDup Gen.isDuplicateBody w r k now).map (·.2) = some 1 := by
  cases hp : present r k <;> simp [execIsDup, Gen.isDuplicateBody, execRTop, execRs, execR1, hp]

theorem extracted_cleanOut_eq_model (r : Repo κ) (tick : Nat) :
    execClean Gen.cleanOutBody r tick = some (cleanOut r tick) := rfl

theorem extracted_middleware_eq_model (a : DupRes) :
    execMw Gen.middlewareBody none a = some (mwDecide a) := by
  cases a with
  | err => rfl
  | verdict b => cases b <;> rfl

/-- a `for` statement whose body treats one message as the model does treats the batch as the model does -/
theorem execFor_eq_model (body : List PLoop)
    (hb : ∀ i a fw ak, execLoopBody body i a none fw ak =
      match a with
      | .err => .abort fw ak
      | .verdict true => .next fw (i :: ak)
      | .verdict false => .next (i :: fw) ak)
    (as : List (Nat × DupRes)) (fw ak : List Nat) :
    (execFor body as fw ak).map (fun (fw, ak, ab) => (fw.reverse, ak.reverse, ab)) = some (decDecide as fw ak) := by
  induction as generalizing fw ak with
  | nil => rfl
  | cons x rest ih =>
    obtain ⟨i, a⟩ := x
    rw [execFor, hb]
    cases a with
    | err => rfl
    | verdict b => cases b <;> exact ih _ _

/-- what the source of the decorator's `Publish` says now is the model's decision for every batch of answers -/
theorem extracted_publish_eq_model (as : List (Nat × DupRes)) :
    execPub Gen.publishBody as = some (decDecide as [] []) :=
  execFor_eq_model _ (fun i a fw ak => by cases a with | err => rfl | verdict b => cases b <;> rfl) as [] []

/-! non-vacuity: the interpreter rejects the realistic breakages -/
example : execIsDup (κ := String) [.s .lock, .s .lookup, .ifSeen [.unlock, .ret true], .s .unlock, .s .lock,
    .s .insertNowPlusWindow, .s .unlock, .s (.ret false)] 10 [] "a" 0 = none := by decide   -- unlock/lock between lookup and insert
example : execIsDup (κ := String) [.s .lookup, .s (.ret false)] 10 [] "a" 0 = none := by decide   -- map read without the mutex
example : execIsDup (κ := String) [.s .lock, .s .lookup, .s (.ret false)] 10 [] "a" 0 = none := by decide  -- returns holding the mutex
example : execClean [.lockDefer, .rangeDeleteIf .valAfterParam] [("a", 5), ("b", 9)] 7 = some [("a", 5)] := by decide
example : cleanOut [("a", 5), ("b", 9)] 7 = [("b", 9)] := by decide
example : execMw [.callIsDup, .ifDupRetNilNil, .retHandler] none .err = some .callHandler := by decide  -- dropped error check is visible

end Wm.GoDedup
