/-
  One step of M_sub as a relation (`Step`, with `step_of_act`): every invariant of the subscription model is proved by
  `cases` on it.  Then the control invariant `CtlOk` (the close protocol).
-/
import WmModel.GcSub
import WmModel.Lts
namespace Wm.GcSub
open Wm.Ack (Sent)

def sys (cap : Nat) : Lts.Sys St Action := { init := init cap, act := act }

/-- the ways a sender goroutine ends: at program counter `pc`, with current copy `c`, action `a` ends it with reason `r` -/
inductive Leaves (s : St) (c : Nat) : SPc → Action → Exit → Prop
  | check (hcl : s.closing = true) : Leaves s c .check .sCheck .closing
  | top (hcd : s.closed = true) : Leaves s c .top .sTop .closed
  | sendClosing (hcl : s.closing = true) : Leaves s c .sendSel .sSendClosing .closing
  | obsClosing (hcl : s.closing = true) : Leaves s c .waitSettle .sObsClosing .closing
  | obsAck {cp : Copy} (hc : s.copies[c]? = some cp) (hack : cp.settle = .ack) : Leaves s c .waitSettle .sObsAck .acked

/-- `act s a = some s'`, one constructor per enabled branch of `act`: the guard as hypotheses, the post-state written
    out.  The five branches in which the lock holder's goroutine ends are one constructor (`leave`). -/
inductive Step (s : St) : Action → St → Prop
  | spawn : Step s .spawn { s with waiting := s.waiting ++ [s.nextPub], nextPub := s.nextPub + 1 }
  | sLock {k p : Nat} (hf : s.holder = .free) (hk : s.waiting[k]? = some p) :
      Step s (.sLock k) { s with waiting := s.waiting.eraseIdx k, holder := .sender p .check 0 }
  | sCheck {p c : Nat} (hh : s.holder = .sender p .check c) (hcl : s.closing = false) :
      Step s .sCheck { s with holder := .sender p .top 0 }
  | sTop {p c : Nat} (hh : s.holder = .sender p .top c) (hcd : s.closed = false) :
      Step s .sTop { s with copies := s.copies ++ [⟨p, false, false, .none⟩], holder := .sender p .sendSel s.copies.length }
  | sendPanic {p c : Nat} (hh : s.holder = .sender p .sendSel c) (hroom : s.cap = 0 ∨ s.buf.length < s.cap)
      (hcc : s.chanClosed = true) : Step s .sSend { s with panicked := true }
  | sendDirect {p c : Nat} (hh : s.holder = .sender p .sendSel c) (hcap : s.cap = 0) (hcc : s.chanClosed = false) :
      Step s .sSend { s with copies := s.copies.modify c (fun cp => { cp with delivered := true, received := true }),
                             holder := .sender p .waitSettle c }
  | sendBuf {p c : Nat} (hh : s.holder = .sender p .sendSel c) (hcap : s.cap ≠ 0) (hroom : s.buf.length < s.cap)
      (hcc : s.chanClosed = false) :
      Step s .sSend { s with buf := s.buf ++ [c], copies := s.copies.modify c (fun cp => { cp with delivered := true }),
                             holder := .sender p .waitSettle c }
  | leave {p c : Nat} {pc : SPc} {a : Action} {r : Exit} (hh : s.holder = .sender p pc c) (hl : Leaves s c pc a r) :
      Step s a (exitSender s p r)
  | sObsNack {p c : Nat} {cp : Copy} (hh : s.holder = .sender p .waitSettle c) (hc : s.copies[c]? = some cp)
      (hn : cp.settle = .nack) : Step s .sObsNack { s with holder := .sender p .top c }
  | recv {c : Nat} {rest : List Nat} (hb : s.buf = c :: rest) :
      Step s .recv { s with buf := rest, copies := s.copies.modify c (fun cp => { cp with received := true }) }
  | settle {c : Nat} {v : Sent} {cp : Copy} (hc : s.copies[c]? = some cp) (hr : cp.received = true) (hv : v ≠ .none) :
      Step s (.settle c v)
        { s with copies := s.copies.modify c (fun cp => { cp with settle := if cp.settle = .none then v else cp.settle }) }
  | cancel : Step s .cancel { s with ctxDone := true }
  | gClose : Step s .gClose { s with gClosing := true }
  | tdStartDone (htd : s.td = .waiting) (hsig : s.ctxDone = true ∨ s.gClosing = true) (hcd : s.closed = true) :
      Step s .tdStart { s with td := .done }
  | tdStartPanic (htd : s.td = .waiting) (hsig : s.ctxDone = true ∨ s.gClosing = true) (hcd : s.closed = false)
      (hcl : s.closing = true) : Step s .tdStart { s with panicked := true }
  | tdStart (htd : s.td = .waiting) (hsig : s.ctxDone = true ∨ s.gClosing = true) (hcd : s.closed = false)
      (hcl : s.closing = false) : Step s .tdStart { s with closing := true, td := .wantLock }
  | tdLock (htd : s.td = .wantLock) (hf : s.holder = .free) : Step s .tdLock { s with holder := .closer, td := .locked }
  | tdClosePanic (htd : s.td = .locked) (hcc : s.chanClosed = true) : Step s .tdClose { s with panicked := true }
  | tdClose (htd : s.td = .locked) (hcc : s.chanClosed = false) :
      Step s .tdClose { s with closed := true, chanClosed := true, holder := .free, td := .done }

theorem step_of_act {s : St} {a : Action} {s' : St} (h : act s a = some s') : Step s a s' := by
  cases a <;> dsimp only [act] at h
  case spawn => cases h; exact .spawn
  case cancel => cases h; exact .cancel
  case gClose => cases h; exact .gClose
  case sLock k =>
    split at h
    · rename_i hf hk; cases h; exact .sLock hf hk
    · cases h
  case sCheck =>
    split at h
    · rename_i hh
      split at h
      · rename_i hcl; cases h; exact .leave hh (.check hcl)
      · rename_i hcl; cases h; exact .sCheck hh (Bool.eq_false_iff.mpr hcl)
    · cases h
  case sTop =>
    split at h
    · rename_i hh
      split at h
      · rename_i hcd; cases h; exact .leave hh (.top hcd)
      · rename_i hcd; cases h; exact .sTop hh (Bool.eq_false_iff.mpr hcd)
    · cases h
  case sSend =>
    split at h
    · rename_i hh
      split at h
      · rename_i hcap
        split at h
        · rename_i hcc; cases h; exact .sendPanic hh (.inl hcap) hcc
        · rename_i hcc; cases h; exact .sendDirect hh hcap (Bool.eq_false_iff.mpr hcc)
      · rename_i hcap
        split at h
        · rename_i hroom
          split at h
          · rename_i hcc; cases h; exact .sendPanic hh (.inr hroom) hcc
          · rename_i hcc; cases h; exact .sendBuf hh hcap hroom (Bool.eq_false_iff.mpr hcc)
        · cases h
    · cases h
  case sSendClosing =>
    split at h
    · rename_i hh
      split at h
      · rename_i hcl; cases h; exact .leave hh (.sendClosing hcl)
      · cases h
    · cases h
  case sObsAck =>
    split at h
    · rename_i hh
      split at h
      · rename_i hc
        split at h
        · rename_i hack; cases h; exact .leave hh (.obsAck hc hack)
        · cases h
      · cases h
    · cases h
  case sObsNack =>
    split at h
    · rename_i hh
      split at h
      · rename_i hc
        split at h
        · rename_i hn; cases h; exact .sObsNack hh hc hn
        · cases h
      · cases h
    · cases h
  case sObsClosing =>
    split at h
    · rename_i hh
      split at h
      · rename_i hcl; cases h; exact .leave hh (.obsClosing hcl)
      · cases h
    · cases h
  case recv =>
    split at h
    · rename_i hb; cases h; exact .recv hb
    · cases h
  case settle c v =>
    split at h
    · rename_i hc
      split at h
      · rename_i hg
        cases h
        rw [Bool.and_eq_true, bne_iff_ne] at hg
        exact .settle hc hg.1 hg.2
      · cases h
    · cases h
  case tdStart =>
    split at h
    · rename_i hg
      split at h
      · rename_i hcd; cases h; exact .tdStartDone hg.1 hg.2 hcd
      · rename_i hcd
        split at h
        · rename_i hcl; cases h; exact .tdStartPanic hg.1 hg.2 (Bool.eq_false_iff.mpr hcd) hcl
        · rename_i hcl; cases h; exact .tdStart hg.1 hg.2 (Bool.eq_false_iff.mpr hcd) (Bool.eq_false_iff.mpr hcl)
    · cases h
  case tdLock =>
    split at h
    · rename_i htd
      split at h
      · rename_i hf; cases h; exact .tdLock htd hf
      · cases h
    · cases h
  case tdClose =>
    split at h
    · rename_i htd
      split at h
      · rename_i hcc; cases h; exact .tdClosePanic htd hcc
      · rename_i hcc; cases h; exact .tdClose htd (Bool.eq_false_iff.mpr hcc)
    · cases h

/-- `sSend` is a step of the lock holder at the first select -/
theorem sSend_holder {s s' : St} (h : act s .sSend = some s') : ∃ p c, s.holder = .sender p .sendSel c := by
  cases step_of_act h with
  | sendPanic hh _ _ | sendDirect hh _ _ | sendBuf hh _ _ _ => exact ⟨_, _, hh⟩
  | leave _ hl => cases hl

/-- at the start there are no copies: the clauses about copies hold for want of one -/
theorem init_no_copy {cap i : Nat} {cp : Copy} {P : Prop} (h : (init cap).copies[i]? = some cp) : P := by
  cases h

/-- when only the program counter of the lock holder moves, the lock stays with the sender of the same publication -/
theorem holder_pub_stays {h : Holder} {p c : Nat} {pc : SPc} (hh : h = .sender p pc c) (pc' : SPc) (c' q : Nat) :
    (∃ pc c, h = .sender q pc c) → ∃ pc c, Holder.sender p pc' c' = .sender q pc c := by
  rintro ⟨_, _, e⟩
  rw [hh] at e; cases e
  exact ⟨_, _, rfl⟩

/-- … and when no sender holds the lock, nothing is to be shown about the holder's publication -/
theorem no_holder_pub {h : Holder} (hx : ∀ p pc c, h ≠ .sender p pc c) {P : Nat → Prop} (q : Nat) :
    (∃ pc c, h = .sender q pc c) → P q :=
  fun ⟨pc, c, e⟩ => absurd e (hx q pc c)

/-- the lock holder is a sender that passed the `closing` pre-check -/
def pastCheck : Holder → Bool
  | .sender _ .check _ => false
  | .sender _ _ _ => true
  | _ => false

/-- control invariant: the close protocol of one subscription -/
def CtlOk (s : St) : Prop :=
  s.panicked = false ∧
  (s.closing = true ↔ s.td ≠ .waiting) ∧
  (s.closed = true ↔ s.td = .done) ∧
  (s.chanClosed = s.closed) ∧
  (s.holder = .closer ↔ s.td = .locked) ∧
  (s.td = .done → pastCheck s.holder = false)

theorem ctl_init (cap : Nat) : CtlOk (init cap) := by
  simp [CtlOk, init]

/-- the lock passes from one holder to another, neither of them the closer -/
theorem ctlOk_holder {s : St} (h : CtlOk s) {x : Holder} (hs : s.holder ≠ .closer) (hx : x ≠ .closer)
    (hpc : s.td = .done → pastCheck x = false) : CtlOk { s with holder := x } :=
  ⟨h.1, h.2.1, h.2.2.1, h.2.2.2.1, ⟨fun e => absurd e hx, fun e => absurd (h.2.2.2.2.1.mpr e) hs⟩, hpc⟩

theorem ctl_step (s : St) (a : Action) (s' : St) (h : CtlOk s) (ha : act s a = some s') : CtlOk s' := by
  have ⟨h1, h2, h3, h4, h5, h6⟩ := h
  -- while a sender past the check holds the lock the teardown is not finished, so the channel is open
  have live : ∀ {p c pc}, s.holder = .sender p pc c → pc ≠ .check → s.td ≠ .done := by
    intro p c pc hh hpc hd
    have := h6 hd
    rw [hh] at this
    cases pc <;> first | exact hpc rfl | cases this
  have hs : ∀ {p c pc}, s.holder = .sender p pc c → s.holder ≠ .closer := fun hh => by rw [hh]; nofun
  cases step_of_act ha with
  | spawn | recv _ | settle _ _ _ | cancel | gClose => exact h
  | sLock hf _ => exact ctlOk_holder h (by rw [hf]; nofun) nofun (fun _ => rfl)
  | sCheck hh hcl =>
    refine ctlOk_holder h (hs hh) nofun (fun hd => ?_)
    rw [h2.mpr (by rw [hd]; nofun)] at hcl; cases hcl
  | sTop hh _ | sendDirect hh _ _ | sendBuf hh _ _ _ | sObsNack hh _ _ =>
    exact ctlOk_holder h (hs hh) nofun (fun hd => absurd hd (live hh nofun))
  | leave hh _ => exact ctlOk_holder h (hs hh) nofun (fun _ => rfl)
  | sendPanic hh _ hcc => exact absurd (h3.mp (h4 ▸ hcc)) (live hh nofun)
  | tdStartDone htd _ hcd => rw [h3.mp hcd] at htd; cases htd
  | tdStartPanic htd _ _ hcl => exact absurd htd (h2.mp hcl)
  | tdClosePanic htd hcc => rw [h3.mp (h4 ▸ hcc)] at htd; cases htd
  -- the teardown moves on: every clause by the old and the new value of `td`
  | tdStart htd _ hcd _ =>
    exact ⟨h1, ⟨fun _ => nofun, fun _ => rfl⟩, ⟨fun e => (nomatch hcd.symm.trans e), nofun⟩, h4,
      ⟨fun e => (nomatch htd.symm.trans (h5.mp e)), nofun⟩, nofun⟩
  | tdLock htd _ =>
    exact ⟨h1, ⟨fun _ => nofun, fun _ => h2.mpr fun e => (nomatch htd.symm.trans e)⟩,
      ⟨fun e => (nomatch htd.symm.trans (h3.mp e)), nofun⟩, h4, ⟨fun _ => rfl, fun _ => rfl⟩, nofun⟩
  | tdClose htd _ =>
    exact ⟨h1, ⟨fun _ => nofun, fun _ => h2.mpr fun e => (nomatch htd.symm.trans e)⟩, ⟨fun _ => rfl, fun _ => rfl⟩, rfl,
      ⟨nofun, nofun⟩, fun _ => rfl⟩

end Wm.GcSub
