import WmModel.Lemmas.GcSubUns
namespace Wm.GcSub
open Wm.Ack (Sent)

/-- life cycle of a copy: delivered before received before settled; the buffer holds delivered copies -/
def CopyOk (s : St) : Prop :=
  (∀ (c : Nat) (cp : Copy), s.copies[c]? = some cp →
      (cp.received = true → cp.delivered = true) ∧ (cp.settle ≠ .none → cp.received = true)) ∧
  (∀ c, c ∈ s.buf → ∃ cp, s.copies[c]? = some cp ∧ cp.delivered = true)

theorem copy_init (cap : Nat) : CopyOk (init cap) := ⟨fun _ _ hi => init_no_copy hi, nofun⟩

/-- `modify` of copy `c0` with a function that respects its life cycle and does not take back `delivered`; the buffer
    gains at most `c0`, delivered -/
theorem copyOk_modify {s t : St} (h : CopyOk s) {c0 : Nat} {f : Copy → Copy} (hc : t.copies = s.copies.modify c0 f)
    (hf : ∀ cp, s.copies[c0]? = some cp →
      (cp.received = true → cp.delivered = true) ∧ (cp.settle ≠ .none → cp.received = true) →
      ((f cp).received = true → (f cp).delivered = true) ∧ ((f cp).settle ≠ .none → (f cp).received = true) ∧
      (cp.delivered = true → (f cp).delivered = true))
    (hb : ∀ c, c ∈ t.buf → c ∈ s.buf ∨ ∃ cp, s.copies[c]? = some cp ∧ c = c0 ∧ (f cp).delivered = true) :
    CopyOk t := by
  obtain ⟨k1, k2⟩ := h
  unfold CopyOk
  rw [hc]
  refine ⟨fun c cp hcp => ?_, fun c hcb => ?_⟩
  · rcases getElem?_modify_some _ _ _ _ _ hcp with ⟨rfl, x, hx, rfl⟩ | ⟨_, hx⟩
    · exact ⟨(hf x hx (k1 _ x hx)).1, (hf x hx (k1 _ x hx)).2.1⟩
    · exact k1 c cp hx
  · rw [List.getElem?_modify]
    rcases hb c hcb with h1 | ⟨cp, hcp, rfl, hd⟩
    · obtain ⟨cp, hcp, hd⟩ := k2 c h1
      refine ⟨_, by rw [hcp]; rfl, ?_⟩
      split
      · subst c0; exact (hf cp hcp (k1 c cp hcp)).2.2 hd
      · exact hd
    · exact ⟨_, by rw [hcp]; rfl, by dsimp only; rw [if_pos rfl]; exact hd⟩

theorem copy_step (s : St) (a : Action) (s' : St) (hu : UnsOk s) (h : CopyOk s) (ha : act s a = some s') : CopyOk s' := by
  have ⟨k1, k2⟩ := h
  cases step_of_act ha with
  | sTop _ _ =>
    exact ⟨forall_append k1 _ ⟨nofun, fun hx => absurd rfl hx⟩,
      fun c hcb => (k2 c hcb).imp fun cp hcp => ⟨append_get_of_get _ _ _ _ hcp.1, hcp.2⟩⟩
  | sendDirect _ _ _ => exact copyOk_modify h rfl (fun _ _ _ => ⟨fun _ => rfl, fun _ => rfl, fun _ => rfl⟩) (fun _ => Or.inl)
  | sendBuf hh _ _ _ =>
    refine copyOk_modify h rfl (fun _ _ lc => ⟨fun _ => rfl, lc.2, fun _ => rfl⟩) fun c' hc' => ?_
    refine (List.mem_append.mp hc').imp_right fun e => ?_
    cases List.mem_singleton.mp e
    exact (hu.1 _ _ hh).imp fun cp hcp => ⟨hcp.1, rfl, rfl⟩
  | recv hb =>
    -- the head of the buffer is a delivered copy
    refine copyOk_modify h rfl (fun cp hcp lc => ⟨fun _ => ?_, fun _ => rfl, id⟩)
      (fun c' hc' => Or.inl (hb ▸ List.mem_cons_of_mem _ hc'))
    obtain ⟨cp', hcp', hd⟩ := k2 _ (hb ▸ List.mem_cons_self)
    rw [hcp] at hcp'; cases hcp'; exact hd
  | settle hc hr _ =>
    refine copyOk_modify h rfl (fun cp' hcp' lc => ⟨lc.1, fun _ => ?_, id⟩) (fun _ => Or.inl)
    rw [hc] at hcp'; cases hcp'; exact hr
  | _ => exact h

end Wm.GcSub
