/-
  Lock discipline of the GoChannel registry (model M_reg), for every reachable state – any number of Publish,
  Subscribe, Close calls and unsubscribe goroutines, every interleaving:
  * the subscribers RWMutex: a writer (Subscribe / unsubscribe inside its critical region) excludes every reader
    (Publish between RLock and RUnlock) and every other writer;
  * a topic mutex has at most one holder – Publish's persist+send and Subscribe's replay+register exclude each other.
  These are the atomicity facts the C11 argument on M_reg (Props/C11Reg.lean) rests on.
-/
import WmModel.Lemmas.GcRegRd
import WmModel.Lemmas.GcRegWr
import WmModel.Lemmas.GcRegTl
import WmModel.Props.C05Reg
namespace Wm.GcReg
open Wm.Lts

theorem reach_rd (cfg : Cfg) : ∀ s, Reach (sys cfg) s → RdOk s :=
  inv_of_Step cfg RdOk (rd_init cfg) (fun _ h hs => rd_step h hs)

theorem reach_wr (cfg : Cfg) : ∀ s, Reach (sys cfg) s → WrOk s :=
  inv_of_Step cfg WrOk (wr_init cfg) (fun hr h hs => wr_step (reach_w1 cfg _ hr) h hs)

theorem reach_tl (cfg : Cfg) : ∀ s, Reach (sys cfg) s → TlOk s :=
  inv_of_Step cfg TlOk (tl_init cfg) (fun _ h hs => tl_step h hs)

/-- **write lock excludes readers**: while a Subscribe or an unsubscribe goroutine is inside its critical region, no
    Publish is between `RLock` and `RUnlock` -/
theorem writer_excludes_readers (cfg : Cfg) (s : St) (h : Reach (sys cfg) s) (i j : Nat) (a b : Th)
    (hi : s.ths[i]? = some a) (hj : s.ths[j]? = some b) (ha : hasW a = true) : holdsR b = false := by
  have hheld := (reach_wr cfg s h).2.1 i a hi ha
  have hempty := (reach_wr cfg s h).1 hheld
  cases hb : holdsR b with
  | false => rfl
  | true =>
    have : j ∈ s.readers := ((reach_rd cfg s h).1 j).mpr ⟨b, hj, hb⟩
    rw [hempty] at this; cases this

/-- **one writer at a time** -/
theorem writers_exclusive (cfg : Cfg) (s : St) (h : Reach (sys cfg) s) (i j : Nat) (a b : Th)
    (hi : s.ths[i]? = some a) (hj : s.ths[j]? = some b) (ha : hasW a = true) (hb : hasW b = true) : i = j :=
  writer_unique cfg s h i j a b hi hj (holdsW_of_hasW a ha) (holdsW_of_hasW b hb)

/-- **a topic mutex has one holder**: two threads inside a critical region of the same topic are the same thread -/
theorem topic_mutex_exclusive (cfg : Cfg) (s : St) (h : Reach (sys cfg) s) (t i j : Nat) (a b : Th)
    (hi : s.ths[i]? = some a) (hj : s.ths[j]? = some b) (ha : holdsT t a = true) (hb : holdsT t b = true) : i = j := by
  obtain ⟨k5, k6⟩ := reach_tl cfg s h
  exact k6 t i j ((k5 t i).mpr ⟨a, hi, ha⟩) ((k5 t j).mpr ⟨b, hj, hb⟩)

/-- in particular: while a Publish is between persisting and its last send on topic `t`, no Subscribe is replaying
    or registering on `t`, and vice versa (the mechanism behind C11) -/
theorem publish_and_subscribe_regions_exclusive (cfg : Cfg) (s : St) (h : Reach (sys cfg) s) (t i j sid : Nat)
    (rest : List Nat) (pc : PPc) (ao : Option (Nat × Nat))
    (hi : s.ths[i]? = some (.pub t rest pc ao)) (hpc : holdsT t (.pub t rest pc ao) = true)
    (hj : s.ths[j]? = some (.sub t sid .register)) : False := by
  have := topic_mutex_exclusive cfg s h t i j _ _ hi hj hpc (by simp [holdsT])
  subst this
  rw [hi] at hj; cases hj

/-! non-vacuity: a state with a registered subscription and a Publish inside the critical region of its topic -/
example : ∃ s, exec (sys ⟨true, false⟩) (init ⟨true, false⟩)
    [.newSub 0, .step 0, .step 0, .step 0, .step 0, .step 0, .step 0, .newPub 0 [5, 6] none, .step 2, .step 2, .step 2, .step 2]
    = some s ∧ s.ths[2]? = some (.pub 0 [5, 6] .send none) ∧ s.tlocks = [(0, 2)] ∧ s.readers = [2] ∧ s.log = [(0, 5), (0, 6)] := by
  refine ⟨_, rfl, ?_, ?_, ?_, ?_⟩ <;> decide

end Wm.GcReg
