/-
  C16 – value semantics: property theorems.

  Statement: "Copy() yields a message that Equals the original and owns its metadata, and Equals is true
  exactly when UUID, payload bytes and the complete metadata key/value set coincide.  Unmarshal after Marshal
  is the identity for the JSON and Protobuf CQRS marshalers (and the name read from the message equals the
  name of the value), for the forwarder envelope (destination topic, UUID, payload, metadata) and for
  request-reply replies (result and error text).  This holds for all payload bytes and all valid-UTF-8 strings."

  clause                                   theorem(s)
  Equals exactly when …                    equals_iff, equals_iff_entries (+ equals_refl, equals_symm, equals_trans, equalsLoop_perm)
  Copy Equals the original                 copy_equals (value level), heap_copy_equals (through the heap)
  Copy owns its metadata                   copy_owns_metadata, copy_writable (nil originals included), copy_fresh_store,
                                           reachable_invariants (+ alias_shares as the contrast)
  CQRS Marshal/Unmarshal identity + name   marshal_round_trip, name_from_message, marshal_shape, marshal_isSome_iff, fallback_round_trips
  forwarder envelope identity              envelope_round_trip, envelope_round_trip_total, envelope_round_trip_equals, wrap_ok_iff,
                                           wrap_empty_destination, publisher_round_trip
                                           (Props/C16Json.lean: json_envelope_round_trip – no codec hypothesis, modelled JSON codec)
  replies: result and error text           reply_round_trip, replyErrOf_replyMeta, reply_shape
  the defect that was repaired (D1)        Old.equals_witness, Old.equals_not_iff
  ties to the source of this run           Props/C16Tie.lean

  All quantify over arbitrary strings (Lean `String` = valid UTF-8), byte lists and maps of any size.  The codec
  theorems assume only `Codec.RoundTrips` for the library codec (encoding/json, protobuf) – a hypothesis that is
  satisfiable (`Wire.wire_round_trips`) and that the harness *tests*; each has a concrete instance next to it.
-/
import WmModel.Value
import WmModel.ValueCodec
import WmModel.Lemmas.Value
import WmModel.Lemmas.ValueHeap
import WmModel.Lemmas.ValueWire
namespace Wm.Value

/-! ## Equals -/

/-- **Equals is true exactly when UUID, payload bytes and the complete metadata key/value set coincide**
    (for Go maps, i.e. association lists without duplicate keys; nil ≡ empty for payload and map).
    The direction `→` needs the counting argument: the loop only shows `a ⊆ b`; together with
    `len a = len b` and the absence of duplicate keys this forces the key sets to be equal. -/
theorem equals_iff (a b : Msg) (ha : a.WF) (hb : b.WF) :
    equals a b = true ↔ a.uuid = b.uuid ∧ a.bytes = b.bytes ∧ ∀ k, lookup a.md k = lookup b.md k := by
  rw [equals_eq_true, ← length_loop_iff_lookup ha hb]
  exact ⟨fun ⟨hu, hl, hloop, hp⟩ => ⟨hu, hp, hl, hloop⟩, fun ⟨hu, hp, hl, hloop⟩ => ⟨hu, hl, hloop, hp⟩⟩

example : equals ⟨"u", none, some [("a", ""), ("b", "x")]⟩ ⟨"u", some [], some [("b", "x"), ("a", "")]⟩ = true := by decide
example : Msg.WF ⟨"u", none, some [("a", ""), ("b", "x")]⟩ := by decide

/-- `equals_iff` with the metadata clause as equality of the sets of key/value pairs -/
theorem equals_iff_entries (a b : Msg) (ha : a.WF) (hb : b.WF) :
    equals a b = true ↔ a.uuid = b.uuid ∧ a.bytes = b.bytes ∧ ∀ k v, (k, v) ∈ a.md ↔ (k, v) ∈ b.md := by
  rw [equals_iff a b ha hb, lookup_eq_iff_same_entries a.md b.md ha hb]

theorem equals_refl (a : Msg) (ha : a.WF) : equals a a = true :=
  (equals_iff a a ha ha).mpr ⟨rfl, rfl, fun _ => rfl⟩

theorem equals_symm (a b : Msg) (ha : a.WF) (hb : b.WF) : equals a b = equals b a := by
  rw [Bool.eq_iff_iff, equals_iff a b ha hb, equals_iff b a hb ha]
  constructor <;> exact fun ⟨hu, hp, hk⟩ => ⟨hu.symm, hp.symm, fun k => (hk k).symm⟩

theorem equals_trans (a b c : Msg) (ha : a.WF) (hb : b.WF) (hc : c.WF)
    (hab : equals a b = true) (hbc : equals b c = true) : equals a c = true := by
  obtain ⟨u1, p1, k1⟩ := (equals_iff a b ha hb).mp hab
  obtain ⟨u2, p2, k2⟩ := (equals_iff b c hb hc).mp hbc
  exact (equals_iff a c ha hc).mpr ⟨u1.trans u2, p1.trans p2, fun k => (k1 k).trans (k2 k)⟩

example : equals ⟨"u", some [1], some [("k", "v")]⟩ ⟨"u", some [1], some [("k", "w")]⟩ = false := by decide

/-- Go ranges over a map in an unspecified order: the verdict of the loop does not depend on it. -/
theorem equalsLoop_perm {other m₁ m₂ : Meta} (h : m₁.Perm m₂) : equalsLoop other m₁ = equalsLoop other m₂ := by
  rw [Bool.eq_iff_iff, equalsLoop_true_iff, equalsLoop_true_iff]
  exact ⟨fun hl k v hkv => hl k v (h.mem_iff.mpr hkv), fun hl k v hkv => hl k v (h.mem_iff.mp hkv)⟩

example : [("a", "1"), ("b", "2")].Perm [("b", "2"), ("a", "1")] := List.Perm.swap ..

/-! ### the repaired defect D1: comparing values only (missing key reads as "") is not the property -/

theorem Old.equals_witness : ∃ a b : Msg, a.WF ∧ b.WF ∧
    Old.equals a b = true ∧ ∃ k, lookup a.md k ≠ lookup b.md k :=
  ⟨⟨"u", none, some [("a", "")]⟩, ⟨"u", none, some [("b", "")]⟩, by decide, by decide, by decide, "a", by decide⟩

/-- on that input the unrepaired algorithm and the repaired one differ -/
theorem Old.equals_not_iff :
    Old.equals ⟨"u", none, some [("a", "")]⟩ ⟨"u", none, some [("b", "")]⟩ = true ∧
    Value.equals ⟨"u", none, some [("a", "")]⟩ ⟨"u", none, some [("b", "")]⟩ = false := by decide

/-! ## Copy (value level) -/

/-- **Copy() yields a message that Equals the original** (both ways round) -/
theorem copy_equals (m : Msg) (hm : m.WF) : equals (copyMsg m) m = true ∧ equals m (copyMsg m) = true := by
  have hc := copyMsg_wf m
  have h : equals (copyMsg m) m = true := (equals_iff _ _ hc hm).mpr ⟨rfl, rfl, lookup_setAll_nil hm⟩
  exact ⟨h, (equals_symm _ _ hm hc).trans h⟩

example : copyMsg ⟨"u", some [0, 255], some [("k", "v"), ("", "")]⟩ = ⟨"u", some [0, 255], some [("k", "v"), ("", "")]⟩ := by decide
/-- the copy of a message with nil metadata has an (empty) map of its own -/
example : (copyMsg ⟨"u", none, none⟩).metadata = some [] := by decide

/-! ## Copy through the heap: the copy owns its metadata -/

open Heap in
/-- what `Copy` allocates: the new object (index `h.objs.length`) refers to a store that did not exist before,
    no existing object refers to it, and every existing object and store is left as it was -/
theorem copy_fresh_store (h h' : Heap) (i : Nat) (hw : h.WF) (hc : h.copy i = some h') :
    h'.refOf h.objs.length = some h.stores.length ∧
    (∀ x, x < h.objs.length → h'.refOf x ≠ some h.stores.length) ∧
    (∀ x, x < h.objs.length → h'.view x = h.view x) := by
  obtain ⟨m, hv, hobjs, hlen, hold, hnew⟩ := copy_spec hc
  have hx_old : ∀ x, x < h.objs.length → h'.objs[x]? = h.objs[x]? := by
    intro x hx; rw [hobjs, List.getElem?_append_left hx]
  refine ⟨by simp [refOf, hobjs], ?_, ?_⟩
  · intro x hx hr
    have : h.refOf x = some h.stores.length := by
      rw [← hr]; unfold refOf; rw [hx_old x hx]
    exact Nat.lt_irrefl _ (refOf_lt_of_wf hw this)
  · intro x hx
    exact view_congr (hx_old x hx) fun a ha => hold a (refOf_lt_of_wf hw ha)

open Heap in
/-- **the copy owns its metadata**: after `c := m.Copy()`, any series of writes through the copy leaves the
    original – and every other message that existed – exactly as it was, and any series of writes through the
    original (or any other existing message) leaves the copy exactly as it was. -/
theorem copy_owns_metadata (h h' : Heap) (i : Nat) (hw : h.WF) (hc : h.copy i = some h') :
    (∀ ws x, x < h.objs.length → (h'.setMany h.objs.length ws).view x = h'.view x) ∧
    (∀ ws x, x < h.objs.length → (h'.setMany x ws).view h.objs.length = h'.view h.objs.length) := by
  obtain ⟨hj, hold, _⟩ := copy_fresh_store h h' i hw hc
  refine ⟨fun ws x hx => setMany_view_of_ref_ne _ _ _ ws ?_, fun ws x hx => setMany_view_of_ref_ne _ _ _ ws ?_⟩
  · intro a ha
    rw [hj] at ha; cases ha
    exact hold x hx
  · intro a ha hja
    rw [hj] at hja; cases hja
    exact hold x hx ha

open Heap in
/-- **Copy() yields a message that Equals the original**, through the heap: right after the call both
    `copy.Equals(orig)` and `orig.Equals(copy)` hold, and the original is unchanged -/
theorem heap_copy_equals (h h' : Heap) (i : Nat) (hw : h.WF) (hm : h.Maps) (hc : h.copy i = some h') :
    ∃ o, h.view i = some o ∧ h'.view i = some o ∧ h'.view h.objs.length = some (copyMsg o) ∧
      equals (copyMsg o) o = true ∧ equals o (copyMsg o) = true := by
  obtain ⟨m, hv, hobjs, hlen, hold, hnew⟩ := copy_spec hc
  have hvi : h'.view i = some m := by
    rw [(copy_fresh_store h h' i hw hc).2.2 i (view_lt hv), hv]
  have hvj : h'.view h.objs.length = some (copyMsg m) := by
    simp [view, hobjs, hnew, copyMsg, setAll]
  exact ⟨m, hv, hvi, hvj, copy_equals m (view_wf hm hv)⟩

open Heap in
/-- **the copy owns a usable map, whatever the original looked like** – in particular when the original's
    `Metadata` is nil (struct literal, `msg.Metadata = nil`, an envelope decoded from `"metadata": null`):
    `copy.Metadata.Set(k, v)` does not panic, the copy then holds `v` under `k`, and the original is untouched -/
theorem copy_writable (h h' : Heap) (i : Nat) (hw : h.WF) (hc : h.copy i = some h') (k v : String) :
    ∃ g c, h'.setMeta h.objs.length k v = .ok g ∧ g.view h.objs.length = some c ∧ get c.md k = v ∧
      c.metadata ≠ none ∧ g.view i = h.view i := by
  obtain ⟨m, hv, hobjs, hlen, hold, hnew⟩ := copy_spec hc
  obtain ⟨hj, holdref, hviews⟩ := copy_fresh_store h h' i hw hc
  have hi := view_lt hv
  have hoj : h'.objs[h.objs.length]? = some ⟨m.uuid, m.payload, some h.stores.length⟩ := by
    simp [hobjs]
  refine ⟨h'.write h.stores.length k v, ⟨m.uuid, m.payload, some (set (h'.store h.stores.length) k v)⟩, ?_, ?_, ?_, ?_, ?_⟩
  · exact setMeta_of_refOf hj k v
  · have hlt : h.stores.length < h'.stores.length := by omega
    simp [view, hoj, store_write_same h' hlt]
  · simp [Msg.md, get, lookup_set]
  · simp
  · rw [view_write_of_ref_ne h' (holdref i hi), hviews i hi]

/-- the nil case, evaluated: the copy of `&Message{UUID: "u"}` takes a write; the original still has no map -/
example :
    let h := (step (step Heap.empty (.lit "u" none)).1 (.copy 0)).1
    (step h (.set 1 "k" "v")).2 = .done ∧ (step h (.set 0 "k" "v")).2 = .panic ∧
    ((step h (.set 1 "k" "v")).1.view 0).map (·.metadata) = some none := by
  decide

/-- contrast (non-vacuity of "owns"): a shallow struct copy shares the map – a write through it shows in the original -/
theorem alias_shares :
    let h := (step (step Heap.empty (.new "u" none)).1 (.alias 0)).1
    (h.setMany 1 [("k", "v")]).view 0 = some ⟨"u", none, some [("k", "v")]⟩ ∧ h.view 0 = some ⟨"u", none, some []⟩ := by
  decide

/-- the same program with `Copy` instead: the original keeps its empty map -/
example :
    let h := (step (step Heap.empty (.new "u" none)).1 (.copy 0)).1
    (h.setMany 1 [("k", "v")]).view 0 = some ⟨"u", none, some []⟩ ∧
    (h.setMany 1 [("k", "v")]).view 1 = some ⟨"u", none, some [("k", "v")]⟩ := by
  decide

/-- the invariants hold in every heap a program can build, so the theorems above apply to all of them -/
theorem reachable_invariants (ops : List Op) : (exec Heap.empty ops).WF ∧ (exec Heap.empty ops).Maps :=
  exec_invariants ops _ Heap.wf_empty Heap.maps_empty

/-! ## Codec round-trips.  Hypothesis everywhere: `Codec.RoundTrips` of the *library* codec – what encodes
    successfully decodes to the same value.  It is satisfiable (`Wire.wire_round_trips`) and is what the harness
    tests for encoding/json and protobuf.  Everything else – which fields travel, under which keys – is proved. -/

/-! ### forwarder envelope -/

/-- `wrap` succeeds in one way only: a non-empty destination topic, an envelope the library encodes, and the
    encoding put into a fresh message -/
theorem wrap_eq_ok {c : Codec Envelope} {u dest : String} {m w : Msg} : wrap c u dest m = .ok w ↔
    dest ≠ "" ∧ ∃ b, c.enc ⟨dest, m.uuid, m.payload, m.metadata⟩ = some b ∧ w = ⟨u, some b, some []⟩ := by
  unfold wrap newEnvelope Envelope.valid
  by_cases hd : dest = ""
  · simp [hd]
  · cases he : c.enc ⟨dest, m.uuid, m.payload, m.metadata⟩ <;> simp [hd, he, eq_comm]

/-- wrapping succeeds exactly for a non-empty destination topic the library can encode -/
theorem wrap_ok_iff (c : Codec Envelope) (u dest : String) (m : Msg) :
    (∃ w, wrap c u dest m = .ok w) ↔ dest ≠ "" ∧ (c.enc ⟨dest, m.uuid, m.payload, m.metadata⟩).isSome := by
  simp only [wrap_eq_ok, Option.isSome_iff_exists]
  exact ⟨fun ⟨_, hd, b, he, _⟩ => ⟨hd, b, he⟩, fun ⟨hd, b, he⟩ => ⟨_, hd, b, he, rfl⟩⟩

/-- **unwrap after wrap is the identity** on destination topic, UUID, payload and metadata (nil-ness included),
    for every message and every destination topic; the wrapper carries the fresh UUID and an empty map -/
theorem envelope_round_trip (c : Codec Envelope) (hc : c.RoundTrips) (u dest : String) (m w : Msg)
    (hw : wrap c u dest m = .ok w) : unwrap c w = .ok (dest, m) ∧ w.uuid = u ∧ w.metadata = some [] := by
  obtain ⟨hd, b, he, rfl⟩ := wrap_eq_ok.mp hw
  simp [unwrap, Msg.bytes, hc _ _ he, Envelope.valid, hd]

/-- with a library encoder that never refuses an envelope (encoding/json on strings, bytes and string maps):
    for all non-empty destination topics the round trip succeeds and is the identity -/
theorem envelope_round_trip_total (c : Codec Envelope) (hc : c.RoundTrips) (ht : ∀ e, (c.enc e).isSome)
    (u dest : String) (m : Msg) (hd : dest ≠ "") :
    ∃ w, wrap c u dest m = .ok w ∧ unwrap c w = .ok (dest, m) := by
  obtain ⟨w, hw⟩ := (wrap_ok_iff c u dest m).mpr ⟨hd, ht _⟩
  exact ⟨w, hw, (envelope_round_trip c hc u dest m w hw).1⟩

/-- in terms of `Equals`: the unwrapped message Equals the original -/
theorem envelope_round_trip_equals (c : Codec Envelope) (hc : c.RoundTrips) (u dest : String) (m w : Msg)
    (hm : m.WF) (hw : wrap c u dest m = .ok w) :
    ∃ m', unwrap c w = .ok (dest, m') ∧ equals m' m = true :=
  ⟨m, (envelope_round_trip c hc u dest m w hw).1, equals_refl m hm⟩

/-- non-vacuity: the hypotheses are satisfied by the wire codec, on a message with control characters,
    an empty key, a nil payload -/
example : ∃ w, wrap Wire.envCodec "#" "topic/é" ⟨"u\n", none, some [("", ""), ("k", "<&>")]⟩ = .ok w ∧
    unwrap Wire.envCodec w = .ok ("topic/é", ⟨"u\n", none, some [("", ""), ("k", "<&>")]⟩) :=
  envelope_round_trip_total _ Wire.wire_round_trips (fun _ => rfl) _ _ _ (by decide)

/-- an empty destination topic is refused (the quantifier of the property excludes it) -/
theorem wrap_empty_destination (c : Codec Envelope) (u : String) (m : Msg) :
    wrap c u "" m = .error .unknownDestination := by
  simp [wrap, newEnvelope, Envelope.valid]

theorem wrapAll_round_trip (c : Codec Envelope) (hc : c.RoundTrips) (topic : String)
    (msgs : List (String × Msg)) (ws : List Msg) (h : wrapAll c topic msgs = .ok ws) :
    ws.map (unwrap c) = msgs.map (fun um => .ok (topic, um.2)) := by
  induction msgs generalizing ws with
  | nil => simp [wrapAll] at h; subst h; rfl
  | cons um rest ih =>
    obtain ⟨u, m⟩ := um
    unfold wrapAll at h
    cases hw : wrap c u topic m with
    | error e => simp [hw] at h
    | ok w =>
      cases hr : wrapAll c topic rest with
      | error e => simp [hw, hr] at h
      | ok ws' =>
        simp only [hw, hr, Except.ok.injEq] at h
        subst h
        simp [ih ws' hr, (envelope_round_trip c hc u topic m w hw).1]

/-- **forwarder.Publisher**: what is published to the forwarder topic unwraps, message by message and in order,
    to the destination topic of the call and the original messages -/
theorem publisher_round_trip (c : Codec Envelope) (hc : c.RoundTrips) (cfg topic : String)
    (msgs : List (String × Msg)) (t : String) (ws : List Msg)
    (h : publisherPublish c cfg topic msgs = .ok (t, ws)) :
    t = forwarderTopic cfg ∧ ws.map (unwrap c) = msgs.map (fun um => .ok (topic, um.2)) := by
  unfold publisherPublish at h
  cases hr : wrapAll c topic msgs with
  | error e => simp [hr] at h
  | ok ws' =>
    simp only [hr, Except.ok.injEq, Prod.mk.injEq] at h
    obtain ⟨h1, h2⟩ := h
    subst h1 h2
    exact ⟨rfl, wrapAll_round_trip c hc topic msgs ws' hr⟩

example : publisherPublish Wire.envCodec "" "dest" [("#1", ⟨"a", some [1], none⟩), ("#2", ⟨"b", none, some [("k", "v")]⟩)]
    = .ok ("forwarder_topic", [⟨"#1", some (Wire.serEnv ⟨"dest", "a", some [1], none⟩), some []⟩,
                               ⟨"#2", some (Wire.serEnv ⟨"dest", "b", none, some [("k", "v")]⟩), some []⟩]) := by
  rfl

/-! ### CQRS marshalers -/

/-- `Marshal` succeeds in one way only: the library encodes the value, and the message is the fresh one with
    the encoding as payload and the name as its only metadata entry -/
theorem marshal_eq_some {α : Type} {mar : Marshaler α} {u : String} {v : α} {msg : Msg} : marshal mar u v = some msg ↔
    ∃ b, mar.codec.enc v = some b ∧ msg = ⟨u, some b, some [(nameKey, mar.name v)]⟩ := by
  unfold marshal
  cases mar.codec.enc v <;> simp [set, eq_comm]

/-- the hypothesis is necessary: an encoder that maps two different values to the same bytes (one that drops part of
    the value – e.g. gogo's reflective encoder on a new-API message with unknown fields, finding
    `gogo-marshaler-new-api-message-unknown-fields`) admits no decoder for which Unmarshal∘Marshal is the identity -/
theorem lossy_encoder_breaks_round_trip {α : Type} (mar : Marshaler α) (u : String) (x y : α) (b : Bytes) (hxy : x ≠ y)
    (hx : mar.codec.enc x = some b) (hy : mar.codec.enc y = some b) :
    ¬ (∀ v msg, marshal mar u v = some msg → unmarshal mar msg = some v) := by
  intro h
  have h1 : mar.codec.dec b = some x := h x _ (marshal_eq_some.mpr ⟨b, hx, rfl⟩)
  have h2 : mar.codec.dec b = some y := h y _ (marshal_eq_some.mpr ⟨b, hy, rfl⟩)
  exact hxy (Option.some.inj (h1.symm.trans h2))

example : (⟨⟨fun (v : Bytes) => some (v.take 1), fun b => some b⟩, fun _ => "n"⟩ : Marshaler Bytes).codec.enc [1, 2]
    = (⟨⟨fun (v : Bytes) => some (v.take 1), fun b => some b⟩, fun _ => "n"⟩ : Marshaler Bytes).codec.enc [1, 3] := by decide

/-- **Unmarshal after Marshal is the identity** (JSON, Protobuf, gogo Protobuf marshalers: same glue, different library codec) -/
theorem marshal_round_trip {α : Type} (mar : Marshaler α) (hc : mar.codec.RoundTrips) (u : String) (v : α) (msg : Msg)
    (h : marshal mar u v = some msg) : unmarshal mar msg = some v := by
  obtain ⟨b, he, rfl⟩ := marshal_eq_some.mp h
  exact hc v b he

/-- **the name read from the message equals the name of the value** (no hypothesis on the codec) -/
theorem name_from_message {α : Type} (mar : Marshaler α) (u : String) (v : α) (msg : Msg)
    (h : marshal mar u v = some msg) : nameFromMessage msg = mar.name v := by
  obtain ⟨b, he, rfl⟩ := marshal_eq_some.mp h
  simp [nameFromMessage, Msg.md, get, lookup]

/-- the message `Marshal` builds: the UUID of the generator, and metadata holding exactly the name -/
theorem marshal_shape {α : Type} (mar : Marshaler α) (u : String) (v : α) (msg : Msg)
    (h : marshal mar u v = some msg) : msg.uuid = u ∧ msg.metadata = some [(nameKey, mar.name v)] := by
  obtain ⟨b, he, rfl⟩ := marshal_eq_some.mp h
  exact ⟨rfl, rfl⟩

/-- Marshal succeeds exactly on the values the library can encode ("serialisable") -/
theorem marshal_isSome_iff {α : Type} (mar : Marshaler α) (u : String) (v : α) :
    (marshal mar u v).isSome ↔ (mar.codec.enc v).isSome := by
  unfold marshal; cases mar.codec.enc v <;> simp

example : (marshal ⟨Wire.tokenCodec, fun _ => "pkg.Type"⟩ "#" [1, 2, 3]).bind (unmarshal ⟨Wire.tokenCodec, fun _ => "pkg.Type"⟩)
    = some [1, 2, 3] := by decide
example : (marshal ⟨Wire.tokenCodec, fun _ => "pkg.Type"⟩ "#" [1, 2, 3]).map nameFromMessage = some "pkg.Type" := by decide

/-- the gogo marshaler with the std-proto fallback: two libraries tried in turn round-trip together when each
    does and the first decoder never mis-reads what only the second could encode (same wire format) -/
theorem fallback_round_trips {α : Type} (c₁ c₂ : Codec α) (h₁ : c₁.RoundTrips) (h₂ : c₂.RoundTrips)
    (compat : ∀ x b, c₁.enc x = none → c₂.enc x = some b → c₁.dec b = none ∨ c₁.dec b = some x) :
    (c₁.orElse c₂).RoundTrips := by
  intro x b h
  simp only [Codec.orElse] at h ⊢
  cases h1 : c₁.enc x with
  | some b' =>
    simp only [h1, Option.some.injEq] at h
    subst h
    simp [h₁ x b' h1]
  | none =>
    simp only [h1] at h
    rcases compat x b h1 h with hd | hd
    · simp [hd, h₂ x b h]
    · simp [hd]

/-! ### request-reply replies -/

theorem errorKey_ne_hasErrorKey : errorKey ≠ hasErrorKey := by simp [errorKey, hasErrorKey]

/-- the metadata `MarshalReply` writes: the has-error marker, and the error text only when there is an error -/
theorem replyMeta_eq (err : Option String) : replyMeta err =
    match err with
    | some e => [(errorKey, e), (hasErrorKey, "1")]
    | none => [(hasErrorKey, "0")] := by
  cases err with
  | none => rfl
  | some e => simp only [replyMeta, set, errorKey_ne_hasErrorKey, ↓reduceIte]

/-- the error read back from the metadata `MarshalReply` wrote is the error that went in -/
theorem replyErrOf_replyMeta (err : Option String) : replyErrOf (replyMeta err) = err := by
  rw [replyMeta_eq]
  cases err <;> simp [replyErrOf, get, lookup, errorKey_ne_hasErrorKey]

/-- `MarshalReply` succeeds in one way only: the library encodes the result, and the message is the fresh one with
    the encoding as payload and the reply metadata -/
theorem marshalReply_eq_some {ρ : Type} {c : Codec ρ} {u : String} {r : Reply ρ} {msg : Msg} :
    marshalReply c u r = some msg ↔ ∃ b, c.enc r.result = some b ∧ msg = ⟨u, some b, some (replyMeta r.err)⟩ := by
  unfold marshalReply
  cases c.enc r.result <;> simp [eq_comm]

/-- **UnmarshalReply after MarshalReply is the identity on the result and on the error text**
    (no error stays no error; an error comes back with exactly its text, the empty text included) -/
theorem reply_round_trip {ρ : Type} (c : Codec ρ) (hc : c.RoundTrips) (u : String) (r : Reply ρ) (msg : Msg)
    (h : marshalReply c u r = some msg) : unmarshalReply c msg = some r := by
  obtain ⟨b, he, rfl⟩ := marshalReply_eq_some.mp h
  simp [unmarshalReply, Msg.md, Msg.bytes, hc _ b he, replyErrOf_replyMeta]

/-- the reply message: has-error marker "1"/"0", and the error text under its key only when there is an error -/
theorem reply_shape {ρ : Type} (c : Codec ρ) (u : String) (r : Reply ρ) (msg : Msg)
    (h : marshalReply c u r = some msg) :
    msg.uuid = u ∧ msg.metadata = some (match r.err with
      | some e => [(errorKey, e), (hasErrorKey, "1")]
      | none => [(hasErrorKey, "0")]) := by
  obtain ⟨b, he, rfl⟩ := marshalReply_eq_some.mp h
  exact ⟨rfl, congrArg some (replyMeta_eq r.err)⟩

example : (marshalReply Wire.tokenCodec "#" ⟨[7], some ""⟩).bind (unmarshalReply Wire.tokenCodec) = some ⟨[7], some ""⟩ :=
  reply_round_trip _ Wire.token_round_trips "#" _ _ rfl
example : (marshalReply Wire.tokenCodec "#" ⟨[7], none⟩).bind (unmarshalReply Wire.tokenCodec) = some ⟨[7], none⟩ :=
  reply_round_trip _ Wire.token_round_trips "#" _ _ rfl

/-- why the marker matters (contrast): a reply whose marker is anything but "1" is read as success -/
example : unmarshalReply Wire.tokenCodec ⟨"#", some [7], some [(errorKey, "boom"), (hasErrorKey, "true")]⟩ = some ⟨[7], none⟩ := by
  simp [unmarshalReply, replyErrOf, get, lookup, Msg.md, Msg.bytes, Wire.tokenCodec, errorKey_ne_hasErrorKey]

end Wm.Value
