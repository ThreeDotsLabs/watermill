/-
  C13 – generated tie: the deferred closure of `poisonQueue.Middleware` and the body of `publishPoisonMessage`,
  extracted from the current Go source and interpreted, equal the hand-written model `Wm.Poison.middleware`
  for every poison topic, filter, publisher outcome, context, message and handler result.
  `WmModel/Gen/PoisonBody.lean` is rewritten by the extractor on every run.
  Proofs split the input where the interpreter consults it; then both sides compute: `rfl` after a split into
  constructors, `simp` with the interpreter's equations where the case is a hypothesis about an opaque test.
-/
import WmModel.GoPoison
import WmModel.Gen.PoisonBody
namespace Wm.GoPoison
open Wm.Poison

theorem ascii_append (a b : String) : ascii (a ++ b) = ascii a ++ ascii b := by
  simp only [ascii, String.toList_append, List.map_append]

/-- a literal is `String.ofList` of its characters, so the two literals are joined without decoding them -/
theorem wrapPrefix_eq : ascii "cannot publish message to poison queue" ++ ascii ": " = wrapPrefix :=
  (ascii_append _ _).symm.trans (congrArg ascii String.ofList_append.symm)

theorem extracted_middleware_eq_model (env : Env) (msg : Msg) (h : HRes) :
    run env Gen.deferBody Gen.publishBody msg h =
      some (viewOut (middleware env.ptopic env.filter env.pub env.ctx msg h)) := by
  rcases env with ⟨pt, filter, pub, ctx⟩
  rcases h with ⟨sets, outs, _ | e⟩
  · rfl
  -- once the filter's verdict and the publisher's outcome are known both sides compute
  cases hf : filter e
  · simp [run, Gen.deferBody, execL, exec1, evalC, middleware, viewOut, viewErr, hf]
  · -- not re-associated: the kernel would compare the two bracketings of the wrapped text by evaluating the literals
    cases pub <;>
      simp [-List.append_assoc, run, Gen.deferBody, Gen.publishBody, runPublish, execL, exec1, evalC, evalV, middleware,
        viewOut, viewErr, hf, stamp, reasonKey, topicKey, handlerKey, subscriberKey]
    rw [wrapPrefix_eq]

end Wm.GoPoison
