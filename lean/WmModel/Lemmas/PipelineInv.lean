/-
  One step of the Pipeline model as a relation (`Step`, equivalent to `act`), and the inductive invariant `Good`.
  Apart from `publishSource` every step works on one token: the token is replaced by a list of tokens (none for
  `ack`/`sink`, itself in a new phase plus possibly the copies for the output topic otherwise).  `Good.replace` says
  when such a replacement keeps the invariant, with the tokens as variables.
-/
import WmModel.Pipeline
import WmModel.Lts
import WmModel.Lemmas.PipelineList
namespace Wm.Pipeline
open Wm.Lts Wm.Pipeline.ListLemmas

def sys (p : Shape) (srcs : List Nat) (faults : List Fault) : Sys St Action :=
  { init := init srcs faults, act := act p }

/-- `act` by cases: the guard of each action and the state it leads to -/
inductive Step (p : Shape) (s : St) : Action → St → Prop
  | publishSource {k l : Nat} (hk : s.srcs[k]? = some l) :
    Step p s (.publishSource k)
      { s with srcs := s.srcs.eraseIdx k, pub := s.pub ++ [l], toks := s.toks ++ [⟨l, 0, .pending⟩] }
  | deliver {i l st : Nat} (hi : s.toks[i]? = some ⟨l, st, .pending⟩) (hst : st < p.n) :
    Step p s (.deliver i) { s with toks := s.toks.set i ⟨l, st, .handling⟩ }
  | fault {i k l st : Nat} {f : Fault} (hi : s.toks[i]? = some ⟨l, st, .handling⟩) (hk : s.faults[k]? = some f)
      (hf : f.stage = st) :
    Step p s (.fault i k)
      { s with faults := s.faults.eraseIdx k,
               toks := s.toks.set i ⟨l, st, .pending⟩ ++ (if f.kind = .pubErrAfterPartial then spawn p l st else []) }
  | publishOk {i l st : Nat} (hi : s.toks[i]? = some ⟨l, st, .handling⟩) :
    Step p s (.publishOk i) { s with toks := s.toks.set i ⟨l, st, .published⟩ ++ spawn p l st }
  | ack {i l st : Nat} (hi : s.toks[i]? = some ⟨l, st, .published⟩) :
    Step p s (.ack i) { s with toks := s.toks.eraseIdx i }
  | sink {i l st : Nat} (hi : s.toks[i]? = some ⟨l, st, .pending⟩) (hst : st = p.n) :
    Step p s (.sink i) { s with toks := s.toks.eraseIdx i, sink := s.sink ++ [l] }

theorem step_iff {p : Shape} {s s' : St} {a : Action} : act p s a = some s' ↔ Step p s a s' := by
  constructor
  · intro h
    -- after the splits an enabled branch of `act` has its guards in the context: they are a constructor's arguments
    cases a <;> simp only [act] at h <;> split at h <;> try split at h
    all_goals cases h
    all_goals constructor <;> assumption
  · intro h
    cases h <;> simp only [act, *, if_true]

/-- the invariant; `srcs0` is the environment's source script -/
structure Good (p : Shape) (srcs0 : List Nat) (s : St) : Prop where
  /-- no loss: a published lineage is at the sink or some subscription still owes it -/
  cover : ∀ l, l ∈ s.pub → l ∈ s.sink ∨ ∃ t, t ∈ s.toks ∧ t.lin = l
  /-- a token that may be acked is already covered strictly downstream -/
  down : ∀ t, t ∈ s.toks → t.phase = .published →
    t.lin ∈ s.sink ∨ ∃ d, d ∈ s.toks ∧ d.lin = t.lin ∧ t.stage < d.stage
  busy : ∀ t, t ∈ s.toks → t.phase ≠ .pending → t.stage < p.n
  bound : ∀ t, t ∈ s.toks → t.stage ≤ p.n
  tokPub : ∀ t, t ∈ s.toks → t.lin ∈ s.pub
  sinkPub : ∀ l, l ∈ s.sink → l ∈ s.pub
  script : ∀ l, l ∈ srcs0 → l ∈ s.pub ∨ l ∈ s.srcs
  pubScript : ∀ l, l ∈ s.pub → l ∈ srcs0
  srcScript : ∀ l, l ∈ s.srcs → l ∈ srcs0

theorem good_init (p : Shape) (srcs : List Nat) (faults : List Fault) : Good p srcs (init srcs faults) := by
  constructor <;> simp [init]

variable {p : Shape} {srcs0 : List Nat} {s s' : St}

/-- what the copies handed to the output topic of stage `st` look like -/
theorem spawn_facts (hw : p.WF) {l st : Nat} (hst : st < p.n) {x : Tok} (hx : x ∈ spawn p l st) :
    x.lin = l ∧ st < x.stage ∧ x.stage ≤ p.n ∧ x.phase = .pending := by
  obtain ⟨t, ht, rfl⟩ := List.mem_map.1 hx
  exact ⟨rfl, ((hw st hst).2 t ht).1, ((hw st hst).2 t ht).2, rfl⟩

theorem mem_spawn {l st t : Nat} (ht : t ∈ p.next st) : (⟨l, t, .pending⟩ : Tok) ∈ spawn p l st :=
  List.mem_map.2 ⟨t, ht, rfl⟩

theorem Good.publishSource (g : Good p srcs0 s) {k l : Nat} (hk : s.srcs[k]? = some l) :
    Good p srcs0 { s with srcs := s.srcs.eraseIdx k, pub := s.pub ++ [l], toks := s.toks ++ [⟨l, 0, .pending⟩] } := by
  have hsrc : ∀ {x}, x ∈ s.srcs ↔ x = l ∨ x ∈ s.srcs.eraseIdx k := (perm_eraseIdx hk).mem_iff.trans List.mem_cons
  constructor <;> simp only [List.mem_append, List.mem_singleton]
  · rintro l' (h | rfl)
    · exact (g.cover l' h).imp id fun ⟨t, ht, hl⟩ => ⟨t, .inl ht, hl⟩
    · exact .inr ⟨_, .inr rfl, rfl⟩
  · rintro t (h | rfl) hp
    · exact (g.down t h hp).imp id fun ⟨d, hd, hl⟩ => ⟨d, .inl hd, hl⟩
    · cases hp
  · rintro t (h | rfl) hp
    · exact g.busy t h hp
    · exact absurd rfl hp
  · rintro t (h | rfl)
    · exact g.bound t h
    · exact Nat.zero_le _
  · rintro t (h | rfl)
    · exact .inl (g.tokPub t h)
    · exact .inr rfl
  · exact fun l' hl' => .inl (g.sinkPub l' hl')
  · intro l' hl'
    rcases g.script l' hl' with h | h
    · exact .inl (.inl h)
    · exact (hsrc.1 h).imp .inr id
  · rintro l' (h | rfl)
    · exact g.pubScript l' h
    · exact g.srcScript l' (List.mem_of_getElem? hk)
  · exact fun l' hl' => g.srcScript l' (hsrc.2 (.inr hl'))

/-- Token `a` is replaced by the tokens `new`; the sink log may receive `a`'s lineage.  The invariant survives if
    the new tokens carry that lineage and sit at legal stages, each `published` one among them has another one
    downstream, and the lineage stays held at `a`'s stage or beyond (`hheld`). -/
theorem Good.replace (g : Good p srcs0 s) {a : Tok} {rest new toks' : List Tok} {sink' : List Nat} {fs : List Fault}
    (hold : s.toks.Perm (a :: rest)) (hnew : toks'.Perm (new ++ rest))
    (hsink : sink' = s.sink ∨ sink' = s.sink ++ [a.lin])
    (htok : ∀ t, t ∈ new → t.lin = a.lin ∧ t.stage ≤ p.n ∧ (t.phase ≠ .pending → t.stage < p.n) ∧
      (t.phase = .published → ∃ d, d ∈ new ∧ t.stage < d.stage))
    (hheld : a.lin ∈ sink' ∨ ∃ d, d ∈ new ++ rest ∧ d.lin = a.lin ∧ a.stage ≤ d.stage) :
    Good p srcs0 { s with toks := toks', sink := sink', faults := fs } := by
  have hm : ∀ {x}, x ∈ s.toks ↔ x = a ∨ x ∈ rest := hold.mem_iff.trans List.mem_cons
  have hm' : ∀ {x}, x ∈ toks' ↔ x ∈ new ∨ x ∈ rest := hnew.mem_iff.trans List.mem_append
  have cases' : ∀ t, t ∈ toks' → t ∈ new ∨ t ∈ s.toks := fun t ht => (hm'.1 ht).imp id fun h => hm.2 (.inr h)
  have ha : a.lin ∈ s.pub := g.tokPub a (hm.2 (.inl rfl))
  have hs : ∀ l, l ∈ s.sink → l ∈ sink' := by rcases hsink with h | h <;> simp +contextual [h]
  have hs' : ∀ l, l ∈ sink' → l ∈ s.sink ∨ l = a.lin := by rcases hsink with h | h <;> simp +contextual [h]
  -- a lineage held by a token of `s` at stage `k` or beyond is still held so afterwards, or has reached the sink
  have carry : ∀ t, t ∈ s.toks → ∀ k, k ≤ t.stage → t.lin ∈ sink' ∨ ∃ d, d ∈ toks' ∧ d.lin = t.lin ∧ k ≤ d.stage := by
    intro t ht k hk
    rcases hm.1 ht with rfl | ht
    · exact hheld.imp id fun ⟨d, hd, hl, hs⟩ => ⟨d, hnew.mem_iff.2 hd, hl, Nat.le_trans hk hs⟩
    · exact .inr ⟨t, hm'.2 (.inr ht), rfl, hk⟩
  refine ⟨?_, ?_, ?_, ?_, ?_, ?_, g.script, g.pubScript, g.srcScript⟩
  · intro l hl
    rcases g.cover l hl with h | ⟨t, ht, rfl⟩
    · exact .inl (hs l h)
    · exact (carry t ht 0 (Nat.zero_le _)).imp id fun ⟨d, hd, hl, _⟩ => ⟨d, hd, hl⟩
  · intro t ht hp
    rcases cases' t ht with hn | ho
    · obtain ⟨d, hd, hs⟩ := (htok t hn).2.2.2 hp
      exact .inr ⟨d, hm'.2 (.inl hd), (htok d hd).1.trans (htok t hn).1.symm, hs⟩
    · rcases g.down t ho hp with h | ⟨d, hd, hl, hs⟩
      · exact .inl (hs _ h)
      · exact hl ▸ carry d hd (t.stage + 1) hs
  · exact fun t ht => (cases' t ht).elim (fun hn => (htok t hn).2.2.1) (g.busy t)
  · exact fun t ht => (cases' t ht).elim (fun hn => (htok t hn).2.1) (g.bound t)
  · exact fun t ht => (cases' t ht).elim (fun hn => (htok t hn).1 ▸ ha) (g.tokPub t)
  · exact fun l hl => (hs' l hl).elim (g.sinkPub l) fun h => h ▸ ha

/-- `deliver`, `fault`, `publishOk`: the token stays where it is in another phase, and copies for subscriptions of the
    output topic may appear – all of them if the new phase is `published` -/
theorem Good.set (hw : p.WF) (g : Good p srcs0 s) {i l st : Nat} {ph ph' : Phase} {extra : List Tok} {fs : List Fault}
    (hi : s.toks[i]? = some ⟨l, st, ph⟩) (hst : st < p.n)
    (hex : ∀ x, x ∈ extra → x ∈ spawn p l st) (hph : ph' = .published → extra = spawn p l st) :
    Good p srcs0 { s with toks := s.toks.set i ⟨l, st, ph'⟩ ++ extra, faults := fs } := by
  refine g.replace (new := ⟨l, st, ph'⟩ :: extra) (perm_eraseIdx hi) (perm_set_append (lt_of_getElem? hi) _ extra)
    (.inl rfl) ?_ (.inr ⟨_, List.mem_append_left _ (List.mem_cons_self ..), rfl, Nat.le_refl _⟩)
  intro t ht
  rcases List.mem_cons.1 ht with rfl | h
  · refine ⟨rfl, Nat.le_of_lt hst, fun _ => hst, fun hp => ?_⟩
    -- the output topic has a subscription (`WF`), and `publishOk` created a copy for it
    obtain ⟨t0, ht0⟩ := List.exists_mem_of_ne_nil _ (hw st hst).1
    have hd : (⟨l, t0, .pending⟩ : Tok) ∈ extra := hph hp ▸ mem_spawn ht0
    exact ⟨_, List.mem_cons_of_mem _ hd, (spawn_facts hw hst (hex _ hd)).2.1⟩
  · obtain ⟨h1, _, h3, h4⟩ := spawn_facts hw hst (hex t h)
    exact ⟨h1, h3, fun hp => absurd h4 hp, fun hp => nomatch h4.symm.trans hp⟩

/-- a `published` token has its lineage at the sink or at another token strictly downstream (so `ack` may drop it) -/
theorem Good.down_eraseIdx (g : Good p srcs0 s) {i : Nat} {t : Tok} (hi : s.toks[i]? = some t)
    (hp : t.phase = .published) :
    t.lin ∈ s.sink ∨ ∃ d, d ∈ s.toks.eraseIdx i ∧ d.lin = t.lin ∧ t.stage < d.stage := by
  refine (g.down t (List.mem_of_getElem? hi) hp).imp id fun ⟨d, hd, hl, hs⟩ => ⟨d, ?_, hl, hs⟩
  rcases List.mem_cons.1 ((perm_eraseIdx hi).mem_iff.1 hd) with rfl | h
  · exact absurd hs (Nat.lt_irrefl _)
  · exact h

/-- a message is handled at a handler stage, not at the sink -/
theorem Good.handling_lt (g : Good p srcs0 s) {i l st : Nat} (hi : s.toks[i]? = some ⟨l, st, .handling⟩) : st < p.n :=
  g.busy _ (List.mem_of_getElem? hi) (fun h => nomatch h)

theorem good_step (p : Shape) (hw : p.WF) (srcs0 : List Nat) (s : St) (a : Action) (s' : St) (g : Good p srcs0 s)
    (h : act p s a = some s') : Good p srcs0 s' := by
  cases step_iff.1 h with
  | publishSource hk => exact g.publishSource hk
  | deliver hi hst =>
    simpa using g.set hw hi hst (ph' := .handling) (extra := []) (fs := s.faults) (fun _ h => nomatch h) (fun h => nomatch h)
  | fault hi _ _ =>
    refine g.set hw hi (g.handling_lt hi) (fun x hx => ?_) (fun h => nomatch h)
    split at hx
    · exact hx
    · cases hx
  | publishOk hi => exact g.set hw hi (g.handling_lt hi) (fun _ h => h) (fun _ => rfl)
  | ack hi =>
    refine g.replace (new := []) (perm_eraseIdx hi) (.refl _) (.inl rfl) (fun _ h => nomatch h) ?_
    exact (g.down_eraseIdx hi rfl).imp id fun ⟨d, hd, hl, hs⟩ => ⟨d, hd, hl, Nat.le_of_lt hs⟩
  | sink hi _ =>
    exact g.replace (new := []) (perm_eraseIdx hi) (.refl _) (.inr rfl) (fun _ h => nomatch h)
      (.inl (List.mem_append_right _ (List.mem_singleton_self _)))

theorem reach_good (p : Shape) (hw : p.WF) (srcs : List Nat) (faults : List Fault) :
    ∀ s, Reach (sys p srcs faults) s → Good p srcs s :=
  inv_of_step (sys p srcs faults) (Good p srcs) (good_init p srcs faults)
    (fun s a s' g h => good_step p hw srcs s a s' g h)

end Wm.Pipeline
