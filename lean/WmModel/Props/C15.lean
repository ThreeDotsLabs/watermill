/-
  C15 – CQRS buses and processors dispatch by type name with the configured ack policy.
  Property theorems only (helper lemmas: `WmModel/Lemmas/Cqrs.lean`, model: `WmModel/Cqrs.lean`).

  All statements quantify over every value type `V`, every codec / name function / topic generator / callback (the
  library parts are parameters), every registry (any length, any names, duplicates allowed), every flag setting, every
  message (any metadata, payload, incoming context) and every assignment of handler outcomes.  Streams: processors keep
  no state between messages (`per_message_independent`), so the per-message statements are statements about every
  position of every stream.
-/
import WmModel.Cqrs
import WmModel.Lemmas.Cqrs
namespace Wm.Cqrs

variable {V : Type}

/-! ## buses -/

/-- **published once, on the generated topic, with name and encoding**: no send publishes twice; a successful send
    published exactly one message, on the topic the configuration generates for the value's type name, with the library
    encoding as payload and the metadata the marshaler produced (`name` ↦ type name) as left by OnSend/OnPublish and
    `modify`. -/
theorem bus_publishes_once (cfg : BusCfg V) (v : V) :
    ((send cfg v).1.filter isPublish).length ≤ 1 ∧
    ((send cfg v).2 = none →
      ∃ payload topic, cfg.encode v = some payload ∧ cfg.topicOf (cfg.nameOf v) v = some topic ∧
        (send cfg v).1.filter isPublish =
          [.publish topic (applyCb cfg.modify (applyCb cfg.hook [(nameKey, cfg.nameOf v)])) payload]) := by
  rcases send_spec cfg v with ⟨_, hnp, err, herr, _⟩ | ⟨b, t, pre, he, ht, _, _, hs, hnp, _⟩
  · exact ⟨by rw [hnp]; exact Nat.zero_le 1, fun h => by rw [herr] at h; cases h⟩
  · simp only [hs, List.filter_append, hnp]
    exact ⟨Nat.le_refl 1, fun _ => ⟨b, t, he, ht, rfl⟩⟩

/-- whatever is published **carries the type name, goes to the generated topic and holds the encoding** (callbacks that
    leave the name key alone, or none) -/
theorem bus_name_metadata (cfg : BusCfg V) (v : V) (topic : String) (md : Meta) (payload : Bytes)
    (hh : KeepsName cfg.hook) (hm : KeepsName cfg.modify)
    (hp : BusEff.publish topic md payload ∈ (send cfg v).1) :
    nameFromMeta md = cfg.nameOf v ∧ cfg.topicOf (cfg.nameOf v) v = some topic ∧ cfg.encode v = some payload := by
  rcases send_spec cfg v with ⟨_, hnp, _⟩ | ⟨b, t, pre, he, ht, _, _, hs, hnp, _⟩
  · exact absurd rfl (List.filter_eq_nil_iff.mp hnp _ hp)
  · rw [hs] at hp
    rcases List.mem_append.mp hp with h | h
    · exact absurd rfl (List.filter_eq_nil_iff.mp hnp _ h)
    · obtain ⟨rfl, rfl, rfl⟩ := BusEff.publish.inj (List.mem_singleton.mp h)
      exact ⟨by rw [hm, hh, nameFromMeta_singleton], ht, he⟩

/-- **OnSend/OnPublish runs before Publish**: the publish is the last effect, and when a hook is configured it was
    called before, with the marshalled message -/
theorem bus_hook_before_publish (cfg : BusCfg V) (v : V) (pre post : List BusEff) (e : BusEff)
    (hs : (send cfg v).1 = pre ++ e :: post) (he : isPublish e = true) :
    post = [] ∧ (cfg.hook.isSome → ∃ payload, cfg.encode v = some payload ∧
                  BusEff.hook (cfg.nameOf v) [(nameKey, cfg.nameOf v)] payload ∈ pre) := by
  rcases send_spec cfg v with ⟨_, hnp, _⟩ | ⟨b, t, pre', hen, _, _, _, hs', hnp, hhk⟩
  · have hmem : e ∈ (send cfg v).1 := by rw [hs]; exact List.mem_append_right _ (.head _)
    exact absurd he (List.filter_eq_nil_iff.mp hnp e hmem)
  · rw [hs'] at hs
    obtain ⟨rfl, _, rfl⟩ := split_at_only isPublish hnp hs he
    exact ⟨rfl, fun h => ⟨b, hen, hhk h⟩⟩

/-- **an error before the publish aborts the send**: marshal error, topic generator error, OnSend/OnPublish error or
    `modify` error ⇒ nothing is published and the send reports an error -/
theorem bus_error_aborts (cfg : BusCfg V) (v : V)
    (h : cfg.encode v = none ∨ cfg.topicOf (cfg.nameOf v) v = none ∨ cfg.hook = some none ∨ cfg.modify = some none) :
    (send cfg v).1.filter isPublish = [] ∧ (send cfg v).2 ≠ none := by
  rcases send_spec cfg v with ⟨_, hnp, err, herr, _⟩ | ⟨b, t, _, he, ht, hh, hm, _⟩
  · exact ⟨hnp, by rw [herr]; nofun⟩
  · exact absurd h (by simp [he, ht, hh, hm])

/-- the send succeeds exactly when every step does -/
theorem bus_result_ok_iff (cfg : BusCfg V) (v : V) :
    (send cfg v).2 = none ↔
      ((cfg.encode v).isSome ∧ (cfg.topicOf (cfg.nameOf v) v).isSome ∧ cfg.hook ≠ some none ∧ cfg.modify ≠ some none ∧
        cfg.pubOk = true) := by
  rcases send_spec cfg v with ⟨hab, _, err, herr, _⟩ | ⟨b, t, _, he, ht, hh, hm, hs, _⟩
  · rw [herr]
    rcases hab with h | h | h | h <;> simp [h]
  · rw [hs, he, ht]
    cases cfg.pubOk <;> simp [hh, hm]

/-- a failing publisher was called exactly once (no retry, no second topic) -/
theorem bus_publish_error_once (cfg : BusCfg V) (v : V) (h : (send cfg v).2 = some .publish) :
    ((send cfg v).1.filter isPublish).length = 1 := by
  rcases send_spec cfg v with ⟨_, _, err, herr, hne⟩ | ⟨b, t, pre, _, _, _, _, hs, hnp, _⟩
  · rw [herr] at h
    exact absurd (Option.some.inj h) hne
  · rw [hs, List.filter_append, hnp]
    rfl

/-- **each value on the topic generated for *it***: in any sequence of sends through one bus – any length, any
    configuration changes between the sends, a topic generator that reads the value – the `j`-th send does exactly what a
    single send of the `j`-th value under the `j`-th configuration does; in particular, when it succeeds it publishes once,
    on `GeneratePublishTopic{name of that value, that value}`, whatever was sent before. -/
theorem bus_each_send_on_its_own_topic (l : List (BusCfg V × V)) (j : Nat) (cfg : BusCfg V) (v : V)
    (hj : l[j]? = some (cfg, v)) :
    (sendSeq l)[j]? = some (send cfg v) ∧
    ((send cfg v).2 = none →
      ∃ payload topic, cfg.encode v = some payload ∧ cfg.topicOf (cfg.nameOf v) v = some topic ∧
        (send cfg v).1.filter isPublish =
          [.publish topic (applyCb cfg.modify (applyCb cfg.hook [(nameKey, cfg.nameOf v)])) payload]) := by
  refine ⟨?_, (bus_publishes_once cfg v).2⟩
  simp [sendSeq, hj]

/-! non-vacuity: a JSON-like command bus with an OnSend hook that adds a key -/
section
private def exCfg : BusCfg Nat :=
  { encode := fun n => some [UInt8.ofNat n], nameOf := fun _ => "main.Cmd", topicOf := fun n v => some ("t." ++ toString (v % 2) ++ "." ++ n),
    hook := some (some (fun md => metaSet md "x" "1")), modify := none, pubOk := true }
example : send exCfg 7 =
    ([.topicGen "main.Cmd", .hook "main.Cmd" [("name", "main.Cmd")] [7],
      .publish "t.1.main.Cmd" [("x", "1"), ("name", "main.Cmd")] [7]], none) := rfl
example : KeepsName exCfg.hook := keepsName_set "x" "1" (by decide)
example : (send { exCfg with hook := some none } 7).2 = some .hook := rfl
-- two values of one type (same name), a generator that reads the value: two different topics
example : ((sendSeq [(exCfg, 7), (exCfg, 8), (exCfg, 9)]).map (fun r => r.1.filter isPublish)) =
    [[.publish "t.1.main.Cmd" [("x", "1"), ("name", "main.Cmd")] [7]],
     [.publish "t.0.main.Cmd" [("x", "1"), ("name", "main.Cmd")] [8]],
     [.publish "t.1.main.Cmd" [("x", "1"), ("name", "main.Cmd")] [9]]] := rfl
end

/-! ## command and event processors (one router handler per registered handler) -/

/-- **invoked iff the name matches** (the delivery to the subscription of handler `i`): nobody but handler `i` is ever
    called, at most once, and it is called exactly when the message's name equals the handler's type name (and the
    payload decodes – otherwise there is no value to call it with); the value it gets is the decoded one. -/
theorem invoked_iff_name_matches (c : Codec V) (k : Kind) (fl : Flags) (i : Nat) (h : Handler) (m : Msg) :
    (∀ inv ∈ (single c k fl i h m).1, inv.h = i ∧ some inv.value = c.decode h.ty m.payload) ∧
    (single c k fl i h m).1.length ≤ 1 ∧
    ((single c k fl i h m).1 ≠ [] ↔ (m.name = h.tyName ∧ (c.decode h.ty m.payload).isSome)) := by
  by_cases hn : m.name = h.tyName
  · cases hd : c.decode h.ty m.payload with
    | none => rw [single_undecodable c k fl i hn hd]; simp
    | some v => rw [single_decoded c k fl i hn hd]; simp [hn]
  · rw [single_other c k fl i hn]; simp [hn]

/-- the message name is the value under the metadata key `name`; a message without that key has the empty name -/
theorem name_from_metadata (m : Msg) :
    (m.md.lookup "name" = none → m.name = "") ∧ (∀ s, m.md.lookup "name" = some s → m.name = s) := by
  simp only [Msg.name, nameFromMeta, metaGet, nameKey]
  exact ⟨fun h => by rw [h], fun s h => by rw [h]⟩

/-- **ack table** of the command and event processors -/
theorem ack_table (c : Codec V) (k : Kind) (fl : Flags) (i : Nat) (h : Handler) (m : Msg) (hk : k ≠ .group) :
    -- another type: commands are acknowledged, events as AckOnUnknownEvent says
    (m.name ≠ h.tyName →
      ((deliver (single c k fl i h m)).settle = .ack ↔ (k = .command ∨ fl.ackUnknown = true))) ∧
    -- right type, payload does not decode: Nack
    (m.name = h.tyName → c.decode h.ty m.payload = none → (deliver (single c k fl i h m)).settle = .nack) ∧
    -- handled: Ack
    (m.name = h.tyName → (c.decode h.ty m.payload).isSome → m.out i = .ok →
      (deliver (single c k fl i h m)).settle = .ack) ∧
    -- handler error: Nack unless AckCommandHandlingErrors (a flag of the command processor only)
    (m.name = h.tyName → (c.decode h.ty m.payload).isSome → m.out i = .err →
      ((deliver (single c k fl i h m)).settle = .ack ↔ (k = .command ∧ fl.ackCmdErr = true))) ∧
    -- handler panic: Nack (the router recovers it)
    (m.name = h.tyName → (c.decode h.ty m.payload).isSome → m.out i = .panic →
      (deliver (single c k fl i h m)).settle = .nack) := by
  have _ := hk  -- says where the closure is in use; the table is the same at every kind
  refine ⟨fun hn => ?_, fun hn hd => ?_, fun hn hd ho => ?_, fun hn hd ho => ?_, fun hn hd ho => ?_⟩
  · rw [single_other c k fl i hn]
    exact settleOf_onOtherName k fl
  · rw [single_undecodable c k fl i hn hd]
    rfl
  all_goals
    obtain ⟨v, hv⟩ := Option.isSome_iff_exists.mp hd
    rw [single_decoded c k fl i hn hv, ho]
  · rfl
  · exact settleOf_afterHandle_err k fl
  · rfl

/-- **the handler's context exposes the original message** – whatever the incoming context held (also another
    "original message") -/
theorem original_message_in_ctx (c : Codec V) (k : Kind) (fl : Flags) (i : Nat) (h : Handler) (m : Msg) :
    ∀ inv ∈ (single c k fl i h m).1, inv.orig = some m.id := by
  by_cases hn : m.name = h.tyName
  · cases hd : c.decode h.ty m.payload with
    | none => rw [single_undecodable c k fl i hn hd]; nofun
    | some v =>
      rw [single_decoded c k fl i hn hd]
      intro inv hinv
      rw [List.mem_singleton.mp hinv]
  · rw [single_other c k fl i hn]; nofun

/-- a message offered to a command / event processor reaches the closure of every registered handler: delivery `i` is
    handler `i`'s -/
theorem processMsg_delivery (c : Codec V) (k : Kind) (fl : Flags) (reg : List Handler) (m : Msg) (hk : k ≠ .group)
    (i : Nat) : (processMsg c k fl reg m)[i]? = (reg[i]?).map (fun h => deliver (single c k fl i h m)) := by
  rw [processMsg_of_ne_group c fl reg m hk, List.getElem?_map, indexed_getElem?]
  cases reg[i]? <;> rfl

/-! non-vacuity -/
section
private def exCodec : Codec Nat := ⟨fun ty b => if b = [1] then some (ty + 10) else none⟩
private def exMsg (out : Nat → Outcome) : Msg :=
  { id := 5, md := [("trace", "x"), ("name", "A")], payload := [1], ctx := [(.originalMessage, 99)], out := out }
example : (exMsg (fun _ => .err)).name = "A" ∧
    (single exCodec .event ⟨false, false⟩ 3 ⟨"A", 2⟩ (exMsg (fun _ => .err))).1.map (fun i => (i.h, i.value, i.orig))
      = [(3, 12, some 5)] ∧
    (deliver (single exCodec .event ⟨false, false⟩ 3 ⟨"A", 2⟩ (exMsg (fun _ => .err)))).settle = .nack := ⟨rfl, rfl, rfl⟩
example : (deliver (single exCodec .command ⟨true, false⟩ 3 ⟨"A", 2⟩ (exMsg (fun _ => .err)))).settle = .ack := rfl
example : (deliver (single exCodec .command ⟨true, false⟩ 3 ⟨"a", 2⟩ (exMsg (fun _ => .err)))).settle = .ack ∧
          (deliver (single exCodec .event ⟨true, false⟩ 3 ⟨"a", 2⟩ (exMsg (fun _ => .err)))).settle = .nack := ⟨rfl, rfl⟩
end

/-! ## group processor (one router handler for the whole group) -/

/-- **group: matching handlers in registration order, stopping at the first error.**
    The handlers a group processor calls for a message are exactly: the handlers whose type name is the message's name,
    in registration order, up to and including the first one that fails (and not including one the payload does not
    decode for) – `cutAtFirstStop` of the matching handlers; in particular a prefix of the matching handlers. -/
theorem group_order_prefix (c : Codec V) (fl : Flags) (reg : List Handler) (m : Msg) :
    invokedIdx (group c fl reg m) = cutAtFirstStop c m (matching m (indexed reg)) ∧
    invokedIdx (group c fl reg m) <+: matchingIdx reg m := by
  have h := groupLoop_invoked c fl m (indexed reg) m.ctx false
  exact ⟨h, by rw [group, h]; exact cut_prefix c m _⟩

/-- the same, position by position: handler `i` is called **iff** its name matches, the payload decodes for it, and every
    matching handler registered before it decoded the payload and succeeded -/
theorem group_invoked_iff (c : Codec V) (fl : Flags) (reg : List Handler) (m : Msg) (i : Nat) :
    i ∈ invokedIdx (group c fl reg m) ↔
      ∃ h, reg[i]? = some h ∧ m.name = h.tyName ∧ (c.decode h.ty m.payload).isSome ∧
        ∀ (j : Nat) (hj : Handler), j < i → reg[j]? = some hj → m.name = hj.tyName →
          ((c.decode hj.ty m.payload).isSome ∧ m.out j = .ok) := by
  rw [(group_order_prefix c fl reg m).1, cut_mem_iff c m _ (matching_sorted m reg)]
  simp only [mem_matching_iff, Prod.forall, and_assoc, and_imp]
  exact exists_congr fun h => and_congr_right fun _ => and_congr_right fun _ => and_congr_right fun _ =>
    ⟨fun hall j hj hlt hg hn => hall j hj hg hn hlt, fun hall j hj hg hn hlt => hall j hj hlt hg hn⟩

/-- registration order, no handler twice -/
theorem group_invoked_increasing (c : Codec V) (fl : Flags) (reg : List Handler) (m : Msg) :
    (invokedIdx (group c fl reg m)).Pairwise (· < ·) := by
  have hs : (matchingIdx reg m).Pairwise (· < ·) := List.pairwise_map.mpr (matching_sorted m reg)
  exact hs.sublist (group_order_prefix c fl reg m).2.sublist

/-- **stopping at the first error**: a handler after which another one was called had succeeded -/
theorem group_stops_at_first_error (c : Codec V) (fl : Flags) (reg : List Handler) (m : Msg)
    (pre post : List Nat) (i : Nat)
    (h : invokedIdx (group c fl reg m) = pre ++ i :: post) (hp : post ≠ []) : m.out i = .ok := by
  rw [(group_order_prefix c fl reg m).1] at h
  exact cut_stops c m _ pre post i h hp

/-- … and only then: the calls end with the last matching handler, or with a handler that failed, or before a handler
    the payload does not decode for -/
theorem group_stop_reason (c : Codec V) (fl : Flags) (reg : List Handler) (m : Msg) :
    invokedIdx (group c fl reg m) = matchingIdx reg m ∨
    (∃ i, (invokedIdx (group c fl reg m)).getLast? = some i ∧ m.out i ≠ .ok) ∨
    (∃ p, (matching m (indexed reg))[(invokedIdx (group c fl reg m)).length]? = some p ∧
          c.decode p.2.ty m.payload = none) := by
  rw [(group_order_prefix c fl reg m).1]
  exact cut_stop_reason c m _

/-- **only matching handlers**, each with the decoded value and with the original message in its context -/
theorem group_invoked_only_matching (c : Codec V) (fl : Flags) (reg : List Handler) (m : Msg) :
    ∀ inv ∈ (group c fl reg m).1,
      ∃ h, reg[inv.h]? = some h ∧ m.name = h.tyName ∧ c.decode h.ty m.payload = some inv.value ∧
        inv.orig = some m.id := by
  intro inv hinv
  obtain ⟨h, hm, r⟩ := groupLoop_invocations c fl m (indexed reg) m.ctx false inv hinv
  exact ⟨h, (mem_indexed_iff reg _ _).mp hm, r⟩

/-- **group ack table**: the message is acknowledged exactly when every matching handler could decode it and succeeded
    and there was at least one – or there was none and AckOnUnknownEvent is set.  In particular: no matching handler ⇒
    Ack iff AckOnUnknownEvent; a handler error or a decode error ⇒ Nack, whatever the flags. -/
theorem ack_table_group (c : Codec V) (fl : Flags) (reg : List Handler) (m : Msg) :
    ((deliver (group c fl reg m)).settle = .ack ↔
      (AllHandle c m (matching m (indexed reg)) ∧ (matching m (indexed reg) ≠ [] ∨ fl.ackUnknown = true))) := by
  rw [deliver, settleOf_eq_ack, group, groupLoop_result]
  simp only [Bool.false_eq_true, false_or]

/-- a handler that was called and did not succeed ⇒ Nack (AckCommandHandlingErrors does not exist for groups) -/
theorem group_handler_error_nack (c : Codec V) (fl : Flags) (reg : List Handler) (m : Msg) (i : Nat)
    (hi : i ∈ invokedIdx (group c fl reg m)) (hf : m.out i ≠ .ok) : (deliver (group c fl reg m)).settle = .nack := by
  cases hs : (deliver (group c fl reg m)).settle with
  | nack => rfl
  | ack =>
    obtain ⟨hall, _⟩ := (ack_table_group c fl reg m).mp hs
    obtain ⟨p, hp, rfl⟩ := List.mem_map.mp ((group_order_prefix c fl reg m).2.subset hi)
    exact absurd (hall p hp).2 hf

/-! non-vacuity: three handlers of type A around one of type B; the second A-handler fails -/
section
private def exReg : List Handler := [⟨"A", 0⟩, ⟨"B", 1⟩, ⟨"A", 0⟩, ⟨"A", 2⟩]
private def exCodec2 : Codec Nat := ⟨fun ty _ => some ty⟩
private def exMsg2 (out : Nat → Outcome) : Msg := { id := 1, md := [("name", "A")], payload := [], ctx := [], out := out }
example : invokedIdx (group exCodec2 ⟨false, false⟩ exReg (exMsg2 (fun i => if i = 2 then .err else .ok))) = [0, 2] ∧
    (deliver (group exCodec2 ⟨false, false⟩ exReg (exMsg2 (fun i => if i = 2 then .err else .ok)))).settle = .nack :=
  ⟨rfl, rfl⟩
example : invokedIdx (group exCodec2 ⟨false, false⟩ exReg (exMsg2 (fun _ => .ok))) = [0, 2, 3] ∧
    matchingIdx exReg (exMsg2 (fun _ => .ok)) = [0, 2, 3] ∧
    (deliver (group exCodec2 ⟨false, false⟩ exReg (exMsg2 (fun _ => .ok)))).settle = .ack := ⟨rfl, rfl, rfl⟩
example : AllHandle exCodec2 (exMsg2 (fun _ => .ok)) (matching (exMsg2 (fun _ => .ok)) (indexed exReg)) := by
  intro p hp
  simp [exCodec2, exMsg2]
end

/-! ## across kinds -/

/-- **messages of other types** (no registered handler has the message's name): nobody is called; commands are
    acknowledged, events and groups acknowledged or rejected exactly as AckOnUnknownEvent prescribes -/
theorem unknown_type_policy (c : Codec V) (k : Kind) (fl : Flags) (reg : List Handler) (m : Msg)
    (hunk : ∀ h ∈ reg, m.name ≠ h.tyName) :
    ∀ d ∈ processMsg c k fl reg m, d.inv = [] ∧ (d.settle = .ack ↔ (k = .command ∨ fl.ackUnknown = true)) := by
  have hidx : ∀ p ∈ indexed reg, m.name ≠ p.2.tyName := by
    rintro ⟨i, h⟩ hp
    exact hunk h (List.mem_of_getElem? ((mem_indexed_iff reg i h).mp hp))
  intro d hd
  by_cases hk : k = .group
  · subst hk
    obtain rfl := List.mem_singleton.mp hd
    have hm : matching m (indexed reg) = [] := List.filter_eq_nil_iff.mpr (fun p hp => by simpa using hidx p hp)
    constructor
    · have := (group_order_prefix c fl reg m).1
      rw [hm] at this
      exact List.map_eq_nil_iff.mp this
    · rw [ack_table_group, hm]
      simp [AllHandle]
  · rw [processMsg_of_ne_group c fl reg m hk] at hd
    obtain ⟨p, hp, rfl⟩ := List.mem_map.mp hd
    rw [single_other c k fl p.1 (hidx p hp)]
    exact ⟨rfl, settleOf_onOtherName k fl⟩

/-- each flag only concerns its own processor kind -/
theorem flags_scope (c : Codec V) (a a' u u' : Bool) (i : Nat) (h : Handler) (reg : List Handler) (m : Msg) :
    single c .command ⟨a, u⟩ i h m = single c .command ⟨a, u'⟩ i h m ∧
    single c .event ⟨a, u⟩ i h m = single c .event ⟨a', u⟩ i h m ∧
    (group c ⟨a, u⟩ reg m).1 = (group c ⟨a', u⟩ reg m).1 ∧
    (deliver (group c ⟨a, u⟩ reg m)).settle = (deliver (group c ⟨a', u⟩ reg m)).settle := by
  have hg : group c ⟨a, u⟩ reg m = group c ⟨a', u⟩ reg m := groupLoop_congr_flags c ⟨a, u⟩ ⟨a', u⟩ m _ _ _ rfl
  exact ⟨single_congr_flags c .command _ i h m rfl rfl, single_congr_flags c .event _ i h m rfl rfl,
    congrArg Prod.fst hg, congrArg (fun r => (deliver r).settle) hg⟩

/-- processors keep no state: what happens to the `j`-th message of a stream depends on that message only -/
theorem per_message_independent (c : Codec V) (k : Kind) (fl : Flags) (reg : List Handler) (ms : List Msg) (j : Nat) :
    (processStream c k fl reg ms)[j]? = (ms[j]?).map (processMsg c k fl reg) := by
  simp [processStream]

/-! ## bus → processor: the handler receives a value equal to the one sent -/

/-- **value equal to the one sent.**  A value `v` sent through a bus (callbacks leave the name key alone), the published
    message delivered (metadata and payload as published, any identity, any context) to a command or event processor
    whose handler `h` is registered for `v`'s type name and decodes into `v`'s Go type: the handler is called, once,
    with exactly `v`.  The codec round trip `decode (encode v) = v` is the library hypothesis. -/
theorem value_round_trip (cfg : BusCfg V) (c : Codec V) (k : Kind) (fl : Flags) (i : Nat) (h : Handler) (v : V) (m : Msg)
    (topic : String) (md : Meta) (payload : Bytes)
    (hh : KeepsName cfg.hook) (hm : KeepsName cfg.modify)
    (hp : BusEff.publish topic md payload ∈ (send cfg v).1)
    (hmd : m.md = md) (hpl : m.payload = payload)
    (hname : h.tyName = cfg.nameOf v)
    (hrt : ∀ b, cfg.encode v = some b → c.decode h.ty b = some v) :
    (single c k fl i h m).1 = [⟨i, v, some m.id⟩] := by
  obtain ⟨hn, _, he⟩ := bus_name_metadata cfg v topic md payload hh hm hp
  have hname' : m.name = h.tyName := by rw [hname, ← hn, ← hmd]; rfl
  have hdec : c.decode h.ty m.payload = some v := by rw [hpl]; exact hrt payload he
  rw [single_decoded c k fl i hname' hdec]

/-- the same through a group: handler `i` of the group gets exactly `v` when the matching handlers before it succeed -/
theorem value_round_trip_group (cfg : BusCfg V) (c : Codec V) (fl : Flags) (reg : List Handler) (i : Nat) (h : Handler)
    (v : V) (m : Msg) (topic : String) (md : Meta) (payload : Bytes)
    (hh : KeepsName cfg.hook) (hm : KeepsName cfg.modify)
    (hp : BusEff.publish topic md payload ∈ (send cfg v).1)
    (hmd : m.md = md) (hpl : m.payload = payload)
    (hreg : reg[i]? = some h) (hname : h.tyName = cfg.nameOf v)
    (hrt : ∀ b, cfg.encode v = some b → c.decode h.ty b = some v)
    (hbefore : ∀ (j : Nat) (hj : Handler), j < i → reg[j]? = some hj → m.name = hj.tyName →
        ((c.decode hj.ty m.payload).isSome ∧ m.out j = .ok)) :
    ∃ inv ∈ (group c fl reg m).1, inv.h = i ∧ inv.value = v ∧ inv.orig = some m.id := by
  obtain ⟨hn, _, he⟩ := bus_name_metadata cfg v topic md payload hh hm hp
  have hname' : m.name = h.tyName := by rw [hname, ← hn, ← hmd]; rfl
  have hdec : c.decode h.ty m.payload = some v := by rw [hpl]; exact hrt payload he
  have hi : i ∈ invokedIdx (group c fl reg m) :=
    (group_invoked_iff c fl reg m i).mpr ⟨h, hreg, hname', by simp [hdec], hbefore⟩
  obtain ⟨inv, hinv, rfl⟩ := List.mem_map.mp hi
  obtain ⟨h', hreg', _, hd', ho⟩ := group_invoked_only_matching c fl reg m inv hinv
  have : h' = h := by rw [hreg] at hreg'; exact (Option.some.inj hreg').symm
  subst this
  rw [hdec] at hd'
  exact ⟨inv, hinv, rfl, (Option.some.inj hd').symm, ho⟩

/-! non-vacuity of the round trip: the example bus above, its published message fed to an event processor -/
section
private def rtCodec : Codec Nat := ⟨fun _ b => match b with | [x] => some x.toNat | _ => none⟩
private def rtMsg : Msg := { id := 3, md := [("x", "1"), ("name", "main.Cmd")], payload := [7], ctx := [], out := fun _ => .ok }
example : BusEff.publish "t.1.main.Cmd" rtMsg.md rtMsg.payload ∈ (send exCfg 7).1 := .tail _ (.tail _ (.head _))
example : (single rtCodec .event ⟨false, false⟩ 0 ⟨"main.Cmd", 0⟩ rtMsg).1.map (fun i => (i.h, i.value, i.orig)) = [(0, 7, some 3)] :=
  rfl
end

end Wm.Cqrs
