/-
  C14 × C02 – the deduplicating middleware inside a Router, composed from the two tied models (`Wm.Dedup.middleware`, tied
  by `Props/C14Tie.lean`; `Wm.Handle.handle`, tied by `Props/C02Tie.lean`) and the settlement model of C03:
    * `duplicate_is_acked_unhandled`: a duplicate inside the window is Acked – the drop is a success – without the handler
      being invoked and without anything being published;
    * `first_is_settled_as_handler_says`: the first message of a key is settled exactly as `handleMessage` settles the
      handler's own result (the middleware is transparent for it);
    * `key_error_is_nacked`: a key-factory / repository error Nacks the message, handler not invoked, nothing published.
-/
import WmModel.Props.C14
import WmModel.Props.C02
namespace Wm.Dedup
open Wm.Handle (Cfg PubOutcome handle sentAfter)

variable {κ : Type} [DecidableEq κ] {α : Type}

/-- the middleware's result as `handleMessage` sees it; `.keyErr` = `(nil, err)`, `.dropped` = `(nil, nil)` -/
def MwRes.toResult : MwRes (Handle.Result α) → Handle.Result α
  | .keyErr => .returns [] true
  | .dropped => .returns [] false
  | .handled r => r

theorem duplicate_is_acked_unhandled (kd : Ack.Kind) (c : Cfg) (p : PubOutcome) (w : Nat) (r : Repo κ) (k : κ) (now : Nat)
    (h : Handle.Result α) (hp : present r k = true) :
    (middleware w r (.key k) now h).2.2 = 0 ∧
    sentAfter kd (handle c ⟨none, (middleware w r (.key k) now h).2.1.toResult⟩ p) = .ack ∧
    (handle c ⟨none, (middleware w r (.key k) now h).2.1.toResult⟩ p).any Handle.Effect.isPublishCall = false := by
  rw [middleware_drop_is_success w r k now h hp]
  refine ⟨rfl, ?_, ?_⟩
  · rw [Handle.sentAfter_handle]; rfl
  · rw [Handle.any_publishCall_handle]; rfl

theorem first_is_settled_as_handler_says (c : Cfg) (p : PubOutcome) (w : Nat) (r : Repo κ) (k : κ) (now : Nat)
    (h : Handle.Result α) (hp : present r k = false) :
    (middleware w r (.key k) now h).2.2 = 1 ∧
    handle c ⟨none, (middleware w r (.key k) now h).2.1.toResult⟩ p = handle c ⟨none, h⟩ p := by
  rw [middleware_first_reaches_handler w r k now h hp]
  exact ⟨rfl, rfl⟩

theorem key_error_is_nacked (kd : Ack.Kind) (c : Cfg) (p : PubOutcome) (w : Nat) (r : Repo κ) (now : Nat)
    (h : Handle.Result α) :
    (middleware w r (.err : KeyRes κ) now h).2.2 = 0 ∧
    sentAfter kd (handle c ⟨none, (middleware w r (.err : KeyRes κ) now h).2.1.toResult⟩ p) = .nack ∧
    (handle c ⟨none, (middleware w r (.err : KeyRes κ) now h).2.1.toResult⟩ p).any Handle.Effect.isPublishCall = false := by
  rw [middleware_key_error w r now h]
  refine ⟨rfl, ?_, ?_⟩
  · rw [Handle.sentAfter_handle]; rfl
  · rw [Handle.any_publishCall_handle]; rfl

end Wm.Dedup
