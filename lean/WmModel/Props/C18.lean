/-
  C18 – Request-reply: replies reach only their requester and listeners always finish.
  Model: WmModel/ReqReply.lean.  Helper lemmas: WmModel/Lemmas/ReqReply*.lean.

  Listener side: theorems over *every* reachable state / every run of the transition system – any number of
  concurrent requests on the shared reply topic, any handler outcomes and redeliveries (any number of replies
  per request), any delivery order and multiplicity, every caller behaviour (reads, stops reading, never reads,
  cancels early or late), timeouts, closed subscriptions, every interleaving.
  Command side: the sequential decision function `command` (effect list with order).
  `fixed = true` is the code as it is; the theorems that do not depend on the repair of D12 are stated for both modes.
-/
import WmModel.Lemmas.ReqReplyTerm
namespace Wm.ReqReply
open Wm.Lts

/-! ## concrete runs used by the non-vacuity examples below -/

def n1 : HOut := ⟨"r1", none, false⟩
def n2 : HOut := ⟨"r2", some "boom", false⟩

/-- two concurrent requests on the shared topic; both notifications reach both listeners -/
def demoShared : List Action :=
  [.newReq, .newReq, .process .ok 1 n2 .ok, .process .ok 0 n1 .ok,
   .deliver 0 0, .deliver 0 1, .deliver 1 0, .deliver 1 1,
   .l 0 .recv, .l 0 .recv, .l 0 .send, .l 1 .recv, .l 1 .send, .l 1 .recv, .c 0 .recv, .c 1 .recv]

/-- the D12 interleaving on the code as it is: two replies for one request (redelivery after a Nack), the caller
    reads nothing; the listener sits at the second send with a full channel; the caller cancels; the listener
    finishes on its own steps only: channel closed, callback once -/
def demoFull : List Action :=
  [.newReq, .process .ok 0 n2 .ok, .process .ok 0 n1 .ok, .deliver 0 0, .deliver 0 1,
   .l 0 .recv, .l 0 .send, .l 0 .recv, .c 0 .cancel]

def demoFinish : List Action := [.l 0 .sendCtx, .l 0 .ctx, .l 0 .cancel, .l 0 .close, .l 0 .finish]

theorem demoFull_reach : ∃ s l, Reach (sys true false) s ∧ exec (sys true false) (init false) demoFull = some s ∧
    s.ls[0]? = some l ∧ l.ctx ≠ .live ∧ l.buf.length = 1 :=
  ⟨_, _, reach_of_exec _ Reach.init demoFull rfl, rfl, rfl, by decide, by decide⟩

/-! ## replies reach only their requester -/

/-- every reply in a caller's reply channel or already read by it is a timeout reply or was made from an accepted
    notification with that caller's own operation id, whose result and error text it repeats -/
theorem held_reply_own (fixed a : Bool) (s : St) (h : Reach (sys fixed a) s) (i : Nat) (l : Listener)
    (hl : s.ls[i]? = some l) (r : Reply) (hr : r ∈ l.buf ++ l.got) : OwnFrom (· ∈ s.pub) l.op r := by
  have hok := ((reach_sok fixed a s h).lok i l hl).1
  rcases List.mem_append.mp hr with hr | hr
  · exact hok.buf r hr
  · exact hok.got r hr

/-- **replies_only_own**: every reply that was ever put into a caller's reply channel (still buffered, or already
    read) and that was made from a notification carries that caller's own operation id -/
theorem replies_only_own (fixed a : Bool) (s : St) (h : Reach (sys fixed a) s) (i : Nat) (l : Listener)
    (hl : s.ls[i]? = some l) (r : Reply) (hr : r ∈ l.buf ++ l.got) (op : Nat) (hop : r.op? = some op) :
    op = l.op := by
  have hown := held_reply_own fixed a s h i l hl r hr
  cases r with
  | result o res err => cases hop; exact hown.1
  | unmarshal o => cases hop; exact hown.1
  | timeout w => cases hop

/-- operation ids identify requests: two different concurrent requests never share one -/
theorem operation_ids_distinct (fixed a : Bool) (s : St) (h : Reach (sys fixed a) s) (i j : Nat) (li lj : Listener)
    (hi : s.ls[i]? = some li) (hj : s.ls[j]? = some lj) (hop : li.op = lj.op) : i = j :=
  (reach_sok fixed a s h).uniq i j li lj hi hj hop

/-- … hence a caller never sees a reply made for another concurrent request sharing the reply topic -/
theorem never_another_requests_reply (fixed a : Bool) (s : St) (h : Reach (sys fixed a) s) (i j : Nat)
    (li lj : Listener) (hi : s.ls[i]? = some li) (hj : s.ls[j]? = some lj) (hij : i ≠ j) (r : Reply)
    (hr : r ∈ li.buf ++ li.got) : r.op? ≠ some lj.op := by
  intro hop
  have h1 := replies_only_own fixed a s h i li hi r hr lj.op hop
  exact hij (operation_ids_distinct fixed a s h i j li lj hi hj h1.symm)

/-- **reply_carries_result_and_error_text**: a result reply in a caller's channel repeats the result and the error
    text of a handler invocation for that caller's own command, whose reply notification the topic accepted -/
theorem reply_carries_result_and_error_text (fixed a : Bool) (s : St) (h : Reach (sys fixed a) s) (i : Nat)
    (l : Listener) (hl : s.ls[i]? = some l) (op : Nat) (res : String) (err : Option String)
    (hr : Reply.result op res err ∈ l.buf ++ l.got) :
    ∃ inv ∈ s.invs, inv.op = l.op ∧ inv.out.res = res ∧ inv.out.err = err ∧ inv.pre = .ok ∧ inv.pub = .ok ∧
      inv.effs = command s.ackErrs inv.pre inv.op inv.out inv.pub := by
  have hs := reach_sok fixed a s h
  obtain ⟨_, n, hn, hnop, hnres, hnerr, _⟩ := held_reply_own fixed a s h i l hl _ hr
  obtain ⟨inv, hinv, hpre, hpub, hne⟩ := hs.pub n hn
  subst hne
  exact ⟨inv, hinv, hnop, hnres, hnerr, hpre, hpub, hs.invs inv hinv⟩

/-- the reply notification a handler invocation publishes carries the command's operation id, the handler's result
    and the handler's error text -/
theorem published_reply_carries_outcome (a : Bool) (pre : Pre) (op : Nat) (o : HOut) (p : PubRes) (n : Notif)
    (h : Eff.publishCall n ∈ command a pre op o p) : n.op = op ∧ n.res = o.res ∧ n.err = o.err := by
  have hn : n = notifOf op o := by
    cases pre
    case ok =>
      rw [command_ok] at h
      simp at h
      rcases h with h | h
      · exact h
      · split at h <;> cases h
    all_goals simp [command, onCommandProcessed] at h
  subst hn
  exact ⟨rfl, rfl, rfl⟩

/-- an unmarshal-error reply likewise stems from an accepted notification for the caller's own command -/
theorem unmarshal_reply_is_own (fixed a : Bool) (s : St) (h : Reach (sys fixed a) s) (i : Nat)
    (l : Listener) (hl : s.ls[i]? = some l) (op : Nat) (hr : Reply.unmarshal op ∈ l.buf ++ l.got) :
    ∃ inv ∈ s.invs, inv.op = l.op ∧ inv.out.bad = true ∧ inv.pub = .ok := by
  have hs := reach_sok fixed a s h
  obtain ⟨_, n, hn, hnop, hnbad⟩ := held_reply_own fixed a s h i l hl _ hr
  obtain ⟨inv, hinv, _, hpub, hne⟩ := hs.pub n hn
  subst hne
  exact ⟨inv, hinv, hnop, hnbad, hpub⟩

/-- **no reply reaches the caller more often than it was produced**: the replies made from notifications that a caller
    holds or has read (timeout replies aside) never outnumber the notifications with its *own* operation id that its
    subscription received – a notification of another request on the shared topic produces nothing for this caller, not
    even a repetition of an earlier own reply.  (Each accepted notification reaches a subscription once – C04 – so this
    is "at most once per published reply".) -/
theorem replies_bounded_by_own_notifications (fixed a : Bool) (s : St) (h : Reach (sys fixed a) s) (i : Nat)
    (l : Listener) (hl : s.ls[i]? = some l) :
    made (l.buf ++ l.got) ≤ l.ownSeen ∧ l.ownSeen + ownIn l.op l.inbox = l.ownDelivered ∧
      made (l.buf ++ l.got) ≤ l.ownDelivered := by
  have hok := ((reach_sok fixed a s h).lok i l hl).1
  have h1 := hok.own
  have h2 := hok.ownd
  simp only [made_append]
  refine ⟨by omega, h2, by omega⟩

/-! non-vacuity: in `demoShared` listener 0 consumed two notifications, one of them its own: one reply, not two -/
example : ∃ s l0, exec (sys true false) (init false) demoShared = some s ∧ s.ls[0]? = some l0 ∧
    l0.acked = 2 ∧ l0.ownDelivered = 1 ∧ made (l0.buf ++ l0.got) = 1 :=
  ⟨_, _, rfl, rfl, by decide, by decide, by decide⟩

/-- the listener acks every notification it consumes – its own, foreign ones, and those it cannot unmarshal -/
theorem acks_every_notification (fixed a : Bool) (s : St) (h : Reach (sys fixed a) s) (i : Nat) (l : Listener)
    (hl : s.ls[i]? = some l) : l.acked + l.inbox.length = l.delivered :=
  ((reach_sok fixed a s h).lok i l hl).1.acks

/-! ## the command is settled as `AckCommandErrors` says, after the reply was published -/

def Eff.isSettle : Eff → Bool
  | .ack | .nack => true
  | _ => false

/-- a failing reply `Publish` nacks the command whatever `AckCommandErrors` says … -/
theorem reply_publish_failure_nacks (a : Bool) (op : Nat) (o : HOut) :
    command a .ok op o .failed = [.publishCall (notifOf op o), .publishRet false, .nack] := rfl

/-- … and the early error returns publish nothing and nack -/
theorem early_error_publishes_nothing (a : Bool) (pre : Pre) (op : Nat) (o : HOut) (p : PubRes) (h : pre ≠ .ok) :
    command a pre op o p = [.nack] := by
  cases pre <;> first | rfl | exact absurd rfl h

/-- **ack/nack table**: the command is acked iff `OnCommandProcessed` got as far as publishing, the reply `Publish`
    did not fail (or `ReplyPublishErrorHandler` swallowed the failure), and the handler returned no error or
    `AckCommandErrors` is set; in every other case it is nacked -/
theorem ack_nack_table (a : Bool) (pre : Pre) (op : Nat) (o : HOut) (p : PubRes) :
    (Eff.ack ∈ command a pre op o p ↔ pre = .ok ∧ p ≠ .failed ∧ (a = true ∨ o.err = none)) ∧
    (Eff.nack ∈ command a pre op o p ↔ ¬ (pre = .ok ∧ p ≠ .failed ∧ (a = true ∨ o.err = none))) := by
  by_cases hpre : pre = .ok
  · subst hpre
    rw [command_ok]
    by_cases h : p ≠ .failed ∧ (a = true ∨ o.err = none) <;> simp [h]
  · rw [early_error_publishes_nothing a pre op o p hpre]
    simp [hpre]

/-! non-vacuity: AckCommandErrors off, the handler returns an error: reply with result and error text, then Nack;
    AckCommandErrors on: the same reply, then Ack; a swallowed publish failure still follows the table -/
example : command false .ok 3 n2 .ok = [.publishCall ⟨3, "r2", some "boom", false⟩, .publishRet true, .nack] := rfl
example : command true .ok 3 n2 .ok = [.publishCall ⟨3, "r2", some "boom", false⟩, .publishRet true, .ack] := rfl
example : command false .ok 3 n1 .failedHandled = [.publishCall ⟨3, "r1", none, false⟩, .publishRet false, .ack] := rfl
example : command true .noOpId 3 n1 .ok = [.nack] := rfl

theorem settles_exactly_once (a : Bool) (pre : Pre) (op : Nat) (o : HOut) (p : PubRes) :
    ((command a pre op o p).filter Eff.isSettle).length = 1 := by
  by_cases hpre : pre = .ok
  · subst hpre
    rw [command_ok]
    split <;> rfl
  · rw [early_error_publishes_nothing a pre op o p hpre]
    rfl

/-- **ack_after_reply_published**: an Ack is always preceded, in this order, by the `Publish` call of the reply and its
    return; so is a Nack unless `OnCommandProcessed` failed before it could publish -/
theorem ack_after_reply_published (a : Bool) (pre : Pre) (op : Nat) (o : HOut) (p : PubRes) (i : Nat)
    (e : Eff) (he : (command a pre op o p)[i]? = some e) (hs : e.isSettle = true) (hp : e = .ack ∨ pre = .ok) :
    ∃ j k b, j < k ∧ k < i ∧ (command a pre op o p)[j]? = some (.publishCall (notifOf op o)) ∧
      (command a pre op o p)[k]? = some (.publishRet b) ∧ (e = .ack → b = true ∨ p = .failedHandled) := by
  have hpre : pre = .ok := by
    rcases hp with rfl | hp
    · exact ((ack_nack_table a pre op o p).1.mp (List.mem_of_getElem? he)).1
    · exact hp
  subst hpre
  rw [command_ok] at he ⊢
  -- the settlement is the third of the three effects
  match i, he with
  | 0, he => cases he; cases hs
  | 1, he => cases he; cases hs
  | 2, he =>
    refine ⟨0, 1, _, Nat.zero_lt_one, Nat.lt_succ_self 1, rfl, rfl, fun hack => ?_⟩
    subst hack
    cases p <;> simp at he ⊢
  | i + 3, he => simp at he

/-! non-vacuity: the hypotheses hold for the Ack at position 2 of a real effect list -/
example : ∃ j k b, j < k ∧ k < 2 ∧ (command true .ok 0 n2 .ok)[j]? = some (.publishCall (notifOf 0 n2)) ∧
    (command true .ok 0 n2 .ok)[k]? = some (.publishRet b) ∧ (Eff.ack = .ack → b = true ∨ PubRes.ok = .failedHandled) :=
  ack_after_reply_published true .ok 0 n2 .ok 2 .ack rfl rfl (Or.inl rfl)

/-- every handler invocation in every reachable state of the system follows that table -/
theorem invocations_follow_table (fixed a : Bool) (s : St) (h : Reach (sys fixed a) s) (inv : Inv)
    (hi : inv ∈ s.invs) : inv.effs = command s.ackErrs inv.pre inv.op inv.out inv.pub :=
  (reach_sok fixed a s h).invs inv hi

/-! ## the listener always terminates -/

/-- sending on a closed channel and closing a closed channel are explicit panic states of the model: unreachable -/
theorem never_panics (fixed a : Bool) (s : St) (h : Reach (sys fixed a) s) (i : Nat) (l : Listener)
    (hl : s.ls[i]? = some l) : l.panicked = false :=
  ((reach_sok fixed a s h).lok i l hl).1.np

/-- the reply channel holds at most one reply; it is closed exactly from the deferred `close` on; once closed
    no send step is enabled any more -/
theorem closed_is_final (fixed a : Bool) (s : St) (h : Reach (sys fixed a) s) (i : Nat) (l : Listener)
    (hl : s.ls[i]? = some l) :
    l.buf.length ≤ 1 ∧ (l.chanClosed = true ↔ l.pc = .ret2 ∨ l.pc = .done) ∧
    (l.chanClosed = true → lstep fixed l .send = none ∧ lstep fixed l .ctx = none ∧ lstep fixed l .subClosed = none ∧
      lstep fixed l .close = none) := by
  have hok := ((reach_sok fixed a s h).lok i l hl).1
  refine ⟨hok.cap, ?_, ?_⟩
  · rw [hok.closed]; cases l.pc <;> simp [pcClosed]
  · intro hc
    rw [hok.closed] at hc
    cases hpc : l.pc <;> simp [hpc, pcClosed] at hc <;> simp [lstep, hpc]

/-- **progress**: once the context has ended (cancel, parent context, timeout) and as long as the listener has not
    finished, one of the listener's *own* steps is enabled – without any step of the caller, however full the
    reply channel is and however many replies are still to come -/
theorem listener_progress (a : Bool) (s : St) (i : Nat) (l : Listener) (hl : s.ls[i]? = some l)
    (hc : l.ctx ≠ .live) (hd : l.pc ≠ .done) : ∃ x, isL i x = true ∧ (act true s x).isSome = true := by
  obtain ⟨x, hx⟩ := lstep_progress l hc hd
  refine ⟨.l i x, by simp [isL], ?_⟩
  cases hf : lstep true l x with
  | none => rw [hf] at hx; cases hx
  | some l' => simp [act, updL, hl, hf]

/-- **bounded**: in every run the number of steps of listener `i` is bounded by its measure plus two per notification
    delivered to it during the run: every loop iteration consumes a delivery -/
theorem listener_steps_bounded (fixed a : Bool) (i : Nat) (run : List Action) (s s' : St)
    (hr : Reach (sys fixed a) s) (he : exec (sys fixed a) s run = some s') :
    (run.filter (isL i)).length + muAt s' i ≤ muAt s i + 2 * (run.filter (isDeliver i)).length := by
  refine steps_bounded_credit_class (sys fixed a) (fun s => muAt s i) (isL i) (isDeliver i) 2 ?_ run s s' hr he
  intro s x s' hr hx
  show (if isL i x then 1 else 0) + atL mu 4 s' i ≤ atL mu 4 s i + (if isDeliver i x then 2 else 0)
  unfold atL
  cases step_touch (fixed := fixed) hx i with
  | here ho ho' hloc => rw [ho, ho']; exact local_mu ((reach_sok fixed a s hr).lok i _ ho).1.closed hloc
  | new ho ho' => rw [ho, ho']; exact Nat.le_refl 4
  | other hL hD ho' => rw [ho', hL, hD]; exact Nat.le_of_eq (Nat.zero_add _)

/-- "the context has ended" is stable -/
theorem ctx_ended_stable (fixed a : Bool) (i : Nat) (run : List Action) (s s' : St) (l : Listener)
    (hl : s.ls[i]? = some l) (hc : l.ctx ≠ .live) (he : exec (sys fixed a) s run = some s') :
    ∃ l', s'.ls[i]? = some l' ∧ l'.ctx ≠ .live ∧ l'.op = l.op := by
  induction run generalizing s l with
  | nil => cases he; exact ⟨l, hl, hc, rfl⟩
  | cons x rest ih =>
    simp only [exec] at he
    split at he
    · rename_i s1 hx
      have ht := step_touch (fixed := fixed) hx i
      rw [hl] at ht
      cases ht with
      | here ho ho' hloc =>
        cases ho
        obtain ⟨l', hl', hc', hop'⟩ := ih s1 _ ho' (local_ctx hloc hc) he
        exact ⟨l', hl', hc', hop'.trans (local_op hloc)⟩
      | new ho _ => cases ho
      | other _ _ ho' => exact ih s1 l ho' hc he
    · cases he

/-- terminal ⇒ good: a finished listener has closed its reply channel, ran `OnListenForReplyFinished` exactly once,
    its context has ended, and it never panicked -/
theorem finished_listener_is_good (fixed a : Bool) (s : St) (h : Reach (sys fixed a) s) (i : Nat) (l : Listener)
    (hl : s.ls[i]? = some l) (hd : l.pc = .done) :
    l.chanClosed = true ∧ l.finishedCalls = 1 ∧ l.ctx ≠ .live ∧ l.panicked = false ∧
      ∀ x, lstep fixed l x = none := by
  have hok := ((reach_sok fixed a s h).lok i l hl).1
  refine ⟨by rw [hok.closed, hd]; rfl, by rw [hok.fin]; simp [hd], hok.ctxe (by rw [hd]; rfl), hok.np, ?_⟩
  intro x; cases x <;> simp [lstep, hd]

/-- `OnListenForReplyFinished` never runs more than once, and has run exactly when the listener is finished -/
theorem finished_calls (fixed a : Bool) (s : St) (h : Reach (sys fixed a) s) (i : Nat) (l : Listener)
    (hl : s.ls[i]? = some l) : l.finishedCalls ≤ 1 ∧ (l.finishedCalls = 1 ↔ l.pc = .done) := by
  have hok := ((reach_sok fixed a s h).lok i l hl).1
  rw [hok.fin]
  by_cases hd : l.pc = .done <;> simp [hd]

/-- **listener_terminates**: take any reachable state in which the context of request `i` has ended, and any
    continuation whatsoever (any caller behaviour, any further replies, any other requests).  Then
    (1) the context stays ended; (2) the listener's own steps in the continuation are bounded by its measure plus two per
    further delivery; (3) as long as it has not finished, one of its own steps is enabled – no step of the caller is
    needed; (4) when it has finished, the reply channel is closed, `OnListenForReplyFinished` ran exactly once, nothing
    panicked.  (2)+(3): under any scheduler that keeps running the listener goroutine it reaches `done`. -/
theorem listener_terminates (a : Bool) (s : St) (h : Reach (sys true a) s) (i : Nat) (l : Listener)
    (hl : s.ls[i]? = some l) (hc : l.ctx ≠ .live) (run : List Action) (s' : St)
    (he : exec (sys true a) s run = some s') :
    ∃ l', s'.ls[i]? = some l' ∧ l'.ctx ≠ .live ∧
      (run.filter (isL i)).length + mu l' ≤ mu l + 2 * (run.filter (isDeliver i)).length ∧
      (l'.pc ≠ .done → ∃ x, isL i x = true ∧ (act true s' x).isSome = true) ∧
      (l'.pc = .done → l'.chanClosed = true ∧ l'.finishedCalls = 1 ∧ l'.panicked = false) := by
  obtain ⟨l', hl', hc', _⟩ := ctx_ended_stable true a i run s s' l hl hc he
  have hb := listener_steps_bounded true a i run s s' h he
  simp only [muAt, atL_some hl, atL_some hl'] at hb
  refine ⟨l', hl', hc', hb, fun hd => listener_progress a s' i l' hl' hc' hd, fun hd => ?_⟩
  have hg := finished_listener_is_good true a s' (reach_of_exec _ h run he) i l' hl' hd
  exact ⟨hg.1, hg.2.1, hg.2.2.2.1⟩

/-! non-vacuity: the hypotheses of `listener_terminates` hold in the state after `demoFull` (context ended, reply channel full,
    listener at its second send, caller not reading); its conclusion applied to the continuation `demoFinish` (five listener
    steps, no caller step) gives: finished, channel closed, callback once -/
example : ∃ s l s' l', Reach (sys true false) s ∧ s.ls[0]? = some l ∧ l.ctx ≠ .live ∧
    exec (sys true false) s demoFinish = some s' ∧ s'.ls[0]? = some l' ∧ l'.pc = .done ∧
    (demoFinish.filter (isL 0)).length + mu l' ≤ mu l + 2 * (demoFinish.filter (isDeliver 0)).length ∧
    l'.chanClosed = true ∧ l'.finishedCalls = 1 := by
  obtain ⟨s, l, hr, _, hl, hc, _⟩ := demoFull_reach
  refine ⟨_, _, _, _, reach_of_exec _ Reach.init demoFull rfl, rfl, by decide, rfl, rfl, by decide, by decide, by decide, by decide⟩

/-! ### the channel is closed exactly once, the callback runs exactly once (counting the steps themselves) -/

/-- **closed exactly once, finished exactly once**: in every run from the initial state the reply channel of request
    `i` is closed at most once and `OnListenForReplyFinished` runs at most once; in a run that ends with the listener
    finished each happened exactly once -/
theorem closed_once_finished_once (fixed a : Bool) (i : Nat) (run : List Action) (s' : St)
    (he : exec (sys fixed a) (init a) run = some s') :
    (run.filter (isClose i)).length ≤ 1 ∧ (run.filter (isFinish i)).length ≤ 1 ∧
    (∀ l', s'.ls[i]? = some l' → l'.pc = .done →
      (run.filter (isClose i)).length = 1 ∧ (run.filter (isFinish i)).length = 1) := by
  -- the `close` steps are counted by `cm`, the `finish` steps by `fm`
  have hc := own_steps_counted fixed a i cm 1 (isClose i) (fun _ => rfl) (fun _ => isClose_le_isL) local_cm
    run (init a) s' Reach.init he
  have hf := own_steps_counted fixed a i fm 1 (isFinish i) (fun _ => rfl) (fun _ => isFinish_le_isL) (fun _ => local_fm)
    run (init a) s' Reach.init he
  -- no listener exists in the initial state: both measures start at 1
  rw [show atL cm 1 (init a) i = 1 from rfl] at hc
  rw [show atL fm 1 (init a) i = 1 from rfl] at hf
  refine ⟨by omega, by omega, ?_⟩
  intro l' hl' hd
  simp only [atL_some hl', cm, fm, hd, pcClosed] at hc hf
  exact ⟨hc, hf⟩

/-! ## non-vacuity: concrete runs -/

/-- in `demoShared` each caller ends up with exactly its own reply (with result and error text), the foreign notification
    is filtered out and acked -/
example : ∃ s l0 l1, exec (sys true false) (init false) demoShared = some s ∧
    s.ls[0]? = some l0 ∧ s.ls[1]? = some l1 ∧
    l0.got = [.result 0 "r1" none] ∧ l1.got = [.result 1 "r2" (some "boom")] ∧ l0.acked = 2 ∧ l1.acked = 2 ∧
    (s.invs.map (·.effs)) = [[.publishCall ⟨1, "r2", some "boom", false⟩, .publishRet true, .nack],
                             [.publishCall ⟨0, "r1", none, false⟩, .publishRet true, .ack]] :=
  ⟨_, _, _, rfl, rfl, rfl, by decide, by decide, by decide, by decide, by decide⟩

example : ∃ s l, exec (sys true false) (init false) demoFull = some s ∧ s.ls[0]? = some l ∧
    l.ctx ≠ .live ∧ l.buf.length = 1 ∧ l.pc = .send (.result 0 "r1" none) ∧ act true s (.l 0 .send) = none :=
  ⟨_, _, rfl, rfl, by decide, by decide, by decide, by decide⟩

example : ∃ s l, exec (sys true false) (init false) (demoFull ++ demoFinish) = some s ∧ s.ls[0]? = some l ∧
    l.pc = .done ∧ l.chanClosed = true ∧ l.finishedCalls = 1 ∧ l.got = [] ∧
    l.buf = [.result 0 "r2" (some "boom")] :=
  ⟨_, _, rfl, rfl, by decide, by decide, by decide, by decide, by decide⟩

/-! ## `Old`: the code before the repair of D12 (blocking sends) -/

namespace Old

/-- no step of listener 0 is enabled -/
def Stuck (s : St) : Prop := ∀ x ∈ allLActs, act false s (.l 0 x) = none

instance (s : St) : Decidable (Stuck s) := by unfold Stuck; infer_instance

/-- **witness (D12, two replies)**: two replies arrive, the caller stops reading and cancels: the listener is stuck
    forever at the second send – context ended, no listener step enabled, channel never closed, callback never run -/
theorem listener_stuck_witness : ∃ s l, exec (sys false false) (init false) demoFull = some s ∧
    s.ls[0]? = some l ∧ l.ctx ≠ .live ∧ l.pc ≠ .done ∧ l.chanClosed = false ∧ l.finishedCalls = 0 ∧ Stuck s :=
  ⟨_, _, rfl, rfl, by decide, by decide, by decide, by decide, by decide⟩

/-- **witness (D12, one unread reply then cancel)**: the final timeout reply cannot be sent either -/
theorem listener_stuck_witness_one : ∃ s l, exec (sys false false) (init false)
    [.newReq, .process .ok 0 n1 .ok, .deliver 0 0, .l 0 .recv, .l 0 .send, .c 0 .cancel] = some s ∧
    s.ls[0]? = some l ∧ l.ctx ≠ .live ∧ l.pc = .loop ∧ l.chanClosed = false ∧ l.finishedCalls = 0 ∧ Stuck s :=
  ⟨_, _, rfl, rfl, by decide, by decide, by decide, by decide, by decide⟩

/-- every step of the listener is a step of the model: `allLActs` is complete, so `Stuck` means what it says -/
theorem allLActs_complete (x : LAct) : x ∈ allLActs := by cases x <;> simp [allLActs]

/-- the same state is not stuck in the repaired code -/
example : ∃ s, exec (sys true false) (init false) demoFull = some s ∧ (act true s (.l 0 .sendCtx)).isSome = true :=
  ⟨_, rfl, by decide⟩

end Old

end Wm.ReqReply
