/-
  Index-wise facts about `List.set`, `List.modify` and `l ++ [x]`: the thread and handler tables of the concurrent
  models are lists updated at one index or extended by one entry.
-/
namespace Wm

theorem get_set_cases {α : Type} (l : List α) (i j : Nat) (new th : α) (h : (l.set i new)[j]? = some th) :
    (j = i ∧ th = new) ∨ (j ≠ i ∧ l[j]? = some th) := by
  rw [List.getElem?_set] at h
  split at h
  · rename_i hij
    split at h
    · injection h with h; exact Or.inl ⟨hij.symm, h.symm⟩
    · cases h
  · rename_i hij; exact Or.inr ⟨fun hx => hij hx.symm, h⟩

theorem get_append_cases {α : Type} (l : List α) (j : Nat) (new th : α) (h : (l ++ [new])[j]? = some th) :
    (j < l.length ∧ l[j]? = some th) ∨ (j = l.length ∧ th = new) := by
  rw [List.getElem?_append] at h
  split at h
  · rename_i hlt; exact Or.inl ⟨hlt, h⟩
  · rcases hd : j - l.length with _ | n
    · simp [hd] at h; exact Or.inr ⟨by omega, h.symm⟩
    · simp [hd] at h

theorem set_get_of_ne {α : Type} (l : List α) (i j : Nat) (new th : α) (hne : j ≠ i) (h : l[j]? = some th) :
    (l.set i new)[j]? = some th := by
  rw [List.getElem?_set]; split
  · rename_i hx; exact absurd hx.symm hne
  · exact h

theorem append_get_of_get {α : Type} (l : List α) (j : Nat) (new th : α) (h : l[j]? = some th) :
    (l ++ [new])[j]? = some th := by
  have hlt : j < l.length := (List.getElem?_eq_some_iff.mp h).1
  rw [List.getElem?_append_left hlt]; exact h

theorem getElem?_modify_some {α : Type} (l : List α) (i j : Nat) (f : α → α) (y : α)
    (h : (l.modify i f)[j]? = some y) :
    (i = j ∧ ∃ x, l[j]? = some x ∧ y = f x) ∨ (i ≠ j ∧ l[j]? = some y) := by
  rw [List.getElem?_modify] at h
  by_cases hij : i = j
  · subst hij
    simp at h
    obtain ⟨x, hx, hy⟩ := h
    exact Or.inl ⟨rfl, x, hx, hy.symm⟩
  · simp [hij] at h
    exact Or.inr ⟨hij, h⟩

theorem mem_modify {α : Type} (l : List α) (i : Nat) (f : α → α) (y : α) (h : y ∈ l.modify i f) :
    y ∈ l ∨ ∃ x, l[i]? = some x ∧ y = f x := by
  obtain ⟨j, hj⟩ := List.mem_iff_getElem?.mp h
  rcases getElem?_modify_some l i j f y hj with ⟨rfl, x, hx, hy⟩ | ⟨_, hy⟩
  · exact Or.inr ⟨x, hx, hy⟩
  · exact Or.inl (List.mem_iff_getElem?.mpr ⟨j, hy⟩)

/-- a predicate that holds for all elements and is kept by `f` on the modified one holds after `modify` -/
theorem forall_mem_modify {α : Type} (l : List α) (i : Nat) (f : α → α) (P : α → Prop)
    (hall : ∀ x ∈ l, P x) (hf : ∀ x, l[i]? = some x → P x → P (f x)) : ∀ y ∈ l.modify i f, P y := by
  intro y hy
  rcases mem_modify l i f y hy with h | ⟨x, hx, rfl⟩
  · exact hall y h
  · exact hf x hx (hall x (List.mem_of_getElem? hx))

theorem getElem?_modify_self {α : Type} (l : List α) (i : Nat) (g : α → α) (y : α) (h : l[i]? = some y) :
    (l.modify i g)[i]? = some (g y) := by
  rw [List.getElem?_modify]; simp [h]

theorem getElem?_modify_ne {α : Type} (l : List α) (i j : Nat) (g : α → α) (hne : i ≠ j) :
    (l.modify i g)[j]? = l[j]? := by
  rw [List.getElem?_modify]; simp [hne]

theorem modify_nil {α : Type} {l : List α} {i : Nat} {g : α → α} (e : l = []) : l.modify i g = [] := by
  rw [e, List.modify_nil]

/-- a fact about the entry at `i` serves where a frame lemma asks it of whatever entry is found at `i` -/
theorem at_get {α : Type} {l : List α} {i : Nat} {x : α} {P : α → Prop} (hx : l[i]? = some x) (p : P x) :
    ∀ y, l[i]? = some y → P y := by
  intro y hy; rw [hx] at hy; cases hy; exact p

/-- what holds of every entry of a table still holds after one entry is replaced by one that has it -/
theorem forall_set {α : Type} {P : Nat → α → Prop} {l : List α} (h : ∀ j x, l[j]? = some x → P j x) (i : Nat)
    (new : α) (hn : P i new) : ∀ j x, (l.set i new)[j]? = some x → P j x := by
  intro j x hj
  rcases get_set_cases _ _ _ _ _ hj with ⟨rfl, rfl⟩ | ⟨_, hj'⟩
  · exact hn
  · exact h j x hj'

theorem forall_append {α : Type} {P : Nat → α → Prop} {l : List α} (h : ∀ j x, l[j]? = some x → P j x)
    (new : α) (hn : P l.length new) : ∀ j x, (l ++ [new])[j]? = some x → P j x := by
  intro j x hj
  rcases get_append_cases _ _ _ _ hj with ⟨_, hj'⟩ | ⟨rfl, rfl⟩
  · exact h j x hj'
  · exact hn

/-- "the entry at `j` satisfies `P`" after an update at `i`: `P new` at `i` itself, as before elsewhere -/
theorem exists_set_iff {α : Type} {l : List α} {i : Nat} {old : α} (hold : l[i]? = some old) (new : α) (P : α → Prop)
    (j : Nat) : (∃ x, (l.set i new)[j]? = some x ∧ P x) ↔ if j = i then P new else ∃ x, l[j]? = some x ∧ P x := by
  split
  · next hji =>
    subst hji; rw [List.getElem?_set_self (List.getElem?_eq_some_iff.mp hold).1]
    exact ⟨fun ⟨_, e, hp⟩ => Option.some.inj e ▸ hp, fun hp => ⟨new, rfl, hp⟩⟩
  · next hji => rw [List.getElem?_set_ne (fun hx => hji hx.symm)]

theorem exists_append_iff {α : Type} {l : List α} {new : α} {P : α → Prop} (hn : ¬P new) (j : Nat) :
    (∃ x, (l ++ [new])[j]? = some x ∧ P x) ↔ ∃ x, l[j]? = some x ∧ P x := by
  refine ⟨fun ⟨x, hj, hp⟩ => ?_, fun ⟨x, hj, hp⟩ => ⟨x, append_get_of_get _ _ _ _ hj, hp⟩⟩
  rcases get_append_cases _ _ _ _ hj with ⟨_, hj'⟩ | ⟨_, rfl⟩
  · exact ⟨x, hj', hp⟩
  · exact absurd hp hn

theorem countP_pos_of_get {α : Type} (p : α → Bool) (l : List α) (i : Nat) (x : α) (h : l[i]? = some x)
    (hp : p x = true) : 0 < l.countP p :=
  List.countP_pos_iff.mpr ⟨x, List.mem_of_getElem? h, hp⟩

/-- replacing the entry at `i` changes a count by the entry's own share -/
theorem countP_set_get {α : Type} (p : α → Bool) (l : List α) (i : Nat) (old new : α) (h : l[i]? = some old) :
    (l.set i new).countP p + (p old).toNat = l.countP p + (p new).toNat := by
  obtain ⟨hlt, hget⟩ := List.getElem?_eq_some_iff.mp h
  rw [List.countP_set hlt, hget]
  cases hx : p old
  · simp [Bool.toNat, Bool.cond_eq_ite]
  · have := countP_pos_of_get p l i old h hx
    simp only [Bool.toNat, Bool.cond_eq_ite, if_true]; omega

theorem sum_map_set {α : Type} (f : α → Nat) (l : List α) (i : Nat) (old new : α) (h : l[i]? = some old) :
    ((l.set i new).map f).sum + f old = (l.map f).sum + f new := by
  induction l generalizing i with
  | nil => cases h
  | cons a r ih =>
    cases i with
    | zero =>
      cases h
      show f new + (r.map f).sum + f old = f old + (r.map f).sum + f new
      omega
    | succ n =>
      have := ih n h
      show f a + ((r.set n new).map f).sum + f old = f a + (r.map f).sum + f new
      omega

end Wm
