import WmModel.Lemmas.GcRegRs
namespace Wm.GcReg

variable {s s' : St} {a : Action} {i : Nat} {old new : Th} {l l' : List Th} {n n' : Nat}
  {subs subs' started started' : List (Nat × Nat)}

def AuxOn (l : List Th) (subs started : List (Nat × Nat)) (nextSid : Nat) : Prop :=
  (∀ (sid t : Nat), (sid, t) ∈ subs → sid < nextSid) ∧
  (∀ (sid m : Nat), (sid, m) ∈ started → sid < nextSid) ∧
  (∀ (i t sid : Nat), l[i]? = some (Th.sub t sid UPc.register) →
      (∀ t', (sid, t') ∉ subs) ∧ (∀ m, (sid, m) ∉ started)) ∧
  (∀ (sid t t' : Nat), (sid, t) ∈ subs → (sid, t') ∈ subs → t = t') ∧
  subs.Nodup

/-- bookkeeping of subscription ids in `subs` and `started` -/
def AuxOk (s : St) : Prop := AuxOn s.ths s.subs s.started s.nextSid

theorem aux_init (cfg : Cfg) : AuxOk (init cfg) := by simp [AuxOk, AuxOn, init]

/-- `subs` does not grow, `started` grows only by senders of registered subscriptions, ids are not reused, and a
    Subscribe at `register` was there before or carries a fresh id -/
theorem aux_frame (h : AuxOn l subs started n) (hsid : n ≤ n') (hnd : subs'.Nodup)
    (hsubs : ∀ sid t : Nat, (sid, t) ∈ subs' → (sid, t) ∈ subs)
    (hst : ∀ sid m : Nat, (sid, m) ∈ started' → (sid, m) ∈ started ∨ ∃ t, (sid, t) ∈ subs)
    (backReg : ∀ j t sid : Nat, l'[j]? = some (Th.sub t sid .register) →
      l[j]? = some (Th.sub t sid .register) ∨ n ≤ sid) : AuxOn l' subs' started' n' := by
  obtain ⟨a1, a2, a3, a4, _⟩ := h
  have old : ∀ sid m, (sid, m) ∈ started' → sid < n := fun sid m hm =>
    (hst sid m hm).elim (a2 sid m) (fun ⟨t, ht⟩ => a1 sid t ht)
  refine ⟨fun sid t hm => Nat.lt_of_lt_of_le (a1 sid t (hsubs sid t hm)) hsid,
    fun sid m hm => Nat.lt_of_lt_of_le (old sid m hm) hsid, fun j t sid hj => ?_,
    fun sid t t' h1 h2 => a4 sid t t' (hsubs _ _ h1) (hsubs _ _ h2), hnd⟩
  rcases backReg j t sid hj with hj' | hfresh
  · obtain ⟨b1, b2⟩ := a3 j t sid hj'
    exact ⟨fun t' hm => b1 t' (hsubs _ _ hm), fun m hm => (hst sid m hm).elim (b2 m) (fun ⟨t', ht'⟩ => b1 t' ht')⟩
  · exact ⟨fun t' hm => Nat.not_le_of_lt (a1 sid t' (hsubs _ _ hm)) hfresh,
      fun m hm => Nat.not_le_of_lt (old sid m hm) hfresh⟩

theorem aux_set_other (h : AuxOn l subs started n) (hn : atRegister new = false) : AuxOn (l.set i new) subs started n :=
  aux_frame h (Nat.le_refl _) h.2.2.2.2 (fun _ _ hm => hm) (fun _ _ hm => .inl hm) (fun _ _ _ hj => .inl (reg_back_set hn hj))

theorem aux_append (h : AuxOn l subs started n) (hn : atRegister new = false) : AuxOn (l ++ [new]) subs started n :=
  aux_frame h (Nat.le_refl _) h.2.2.2.2 (fun _ _ hm => hm) (fun _ _ hm => .inl hm) (fun _ _ _ hj => .inl (reg_back_append hn hj))

/-- Subscribe registers: its id was not registered before (and, there being one writer, no other Subscribe is at
    `register`) -/
theorem aux_sub_register {t sid : Nat} {ann : Option Nat} (hw1 : W1On l ann) (hrs : RsOn l n subs) (h : AuxOn l subs started n)
    (hold : l[i]? = some (Th.sub t sid UPc.register))
    (h3 : ∀ sid' m, (sid', m) ∈ started' → (sid', m) ∈ started ∨ sid' = sid) :
    AuxOn (l.set i (Th.sub t sid UPc.retOk)) (subs ++ [(sid, t)]) started' n := by
  obtain ⟨a1, a2, a3, a4, a5⟩ := h
  obtain ⟨f1, f2⟩ := a3 i t sid hold
  have hlt : sid < n := (hrs.2.2.1 i t sid hold).1
  have hmem : ∀ {sid' t'}, (sid', t') ∈ subs ++ [(sid, t)] → (sid', t') ∈ subs ∨ (sid' = sid ∧ t' = t) := by
    intro sid' t' hm
    rw [List.mem_append, List.mem_singleton, Prod.mk.injEq] at hm; exact hm
  refine ⟨fun sid' t' hm => ?_, fun sid' m hm => ?_, fun j t' sid' hj => ?_, fun sid' t1 t2 k1 k2 => ?_, ?_⟩
  · rcases hmem hm with hm | ⟨rfl, _⟩
    · exact a1 sid' t' hm
    · exact hlt
  · rcases h3 sid' m hm with hm | rfl
    · exact a2 sid' m hm
    · exact hlt
  · rcases get_set_cases _ _ _ _ _ hj with ⟨_, hth'⟩ | ⟨hji, hj'⟩
    · cases hth'
    · exact absurd (w1_unique hw1 hj' rfl hold rfl) hji
  · rcases hmem k1 with m1 | ⟨rfl, rfl⟩ <;> rcases hmem k2 with m2 | ⟨e, rfl⟩
    · exact a4 sid' t1 t2 m1 m2
    · exact absurd (e ▸ m1) (f1 t1)
    · exact absurd m2 (f1 t2)
    · rfl
  · rw [List.nodup_append]
    refine ⟨a5, List.nodup_cons.mpr ⟨List.not_mem_nil, List.nodup_nil⟩, fun x hx y hy hxe => ?_⟩
    cases List.mem_singleton.mp hy
    exact f1 t (hxe ▸ hx)

/-- the senders a Subscribe's replay starts are its own -/
theorem replay_fst {c : Bool} {l : List (Nat × Nat)} {sid sid' m : Nat}
    (h : (sid', m) ∈ if c = true then l.map (fun tm => (sid, tm.2)) else []) : sid' = sid := by
  split at h
  · obtain ⟨x, _, hxe⟩ := List.mem_map.mp h
    exact (Prod.mk.inj hxe).1.symm
  · cases h

theorem aux_step (hw1 : W1 s) (hrs : RsOk s) (h : AuxOk s) (hs : Step s a s') : AuxOk s' := by
  have same := fun (sid m : Nat) (hm : (sid, m) ∈ s.started) => (Or.inl hm : (sid, m) ∈ s.started ∨ ∃ t, (sid, t) ∈ s.subs)
  cases hs with
  | newPub | newPubNested | newSub | newClose => exact aux_append h rfl
  | cancel | senderDone | panic => exact h
  | subTlock i t hth =>
    -- the Subscribe at `register` now carries the fresh id
    refine aux_frame h (Nat.le_succ _) h.2.2.2.2 (fun _ _ hm => hm) same (fun j t' sid hj => ?_)
    rcases get_set_cases _ _ _ _ _ (reg_back_append rfl hj) with ⟨_, e⟩ | ⟨_, hj'⟩
    · cases e; exact .inr (Nat.le_refl _)
    · exact .inl hj'
  | thread hth hm =>
    cases hm with
    | pubSendWait | pubSendNext =>
      -- `sendMessage`: senders are started for registered subscriptions only
      refine aux_frame h (Nat.le_refl _) h.2.2.2.2 (fun _ _ hm => hm) (fun sid m' hm => ?_)
        (fun _ _ _ hj => .inl (reg_back_set rfl hj))
      refine (List.mem_append.mp hm).imp_right fun hm => ?_
      obtain ⟨x, hx, e⟩ := List.mem_map.mp hm
      exact ⟨_, (Prod.mk.inj e).1 ▸ (mem_subsOf s _ x).mp hx⟩
    | subRegister =>
      exact aux_sub_register hw1 hrs h hth (fun _ _ hm => (List.mem_append.mp hm).imp_right replay_fst)
    | tdRemove =>
      exact aux_frame h (Nat.le_refl _) (h.2.2.2.2.erase _) (fun _ _ hm => List.mem_of_mem_erase hm) same
        (fun _ _ _ hj => .inl (reg_back_set rfl hj))
    | _ => exact aux_set_other h rfl

end Wm.GcReg
