/-
  One step of M_prod as a relation (`Step`, with `step_of_act`): an M_sub step of the instance of `me`, or an M_reg step
  together with its effect `Eff` on the instance and on the sender list; the link invariants are proved by `cases` on
  it.  Then what starting senders does to both (`foldl_spawn`), and the composition lemma `step_proj`: every product
  step is an M_reg step (or leaves M_reg alone) and a finite M_sub run (or creates the instance) – so whatever holds in
  every reachable state of either model holds in the product (`reach_reg`, `reach_sub`).
-/
import WmModel.GcProd
import WmModel.Lts
import WmModel.Lemmas.GcSubCtl
import WmModel.Lemmas.GcRegInv
namespace Wm.GcProd
open Wm Wm.Lts

def sys (me cap : Nat) (cfg : GcReg.Cfg) : Sys St Action := { init := init cfg, act := act me cap }

/-- the instance of `me` is where it was, or has taken one M_sub step other than `spawn`: it was not created and no
    sender was started -/
inductive Idle : Option GcSub.St → Option GcSub.St → Prop
  | same {o : Option GcSub.St} : Idle o o
  | step {q q' : GcSub.St} {a : GcSub.Action} (h : GcSub.act q a = some q') (ha : a ≠ .spawn) : Idle (some q) (some q')

theorem idle_map {a : GcSub.Action} {f : GcSub.St → GcSub.St} (ha : a ≠ .spawn) (hf : ∀ q, GcSub.act q a = some (f q))
    (o : Option GcSub.St) : Idle o (o.map f) := by
  cases o with
  | none => exact .same
  | some q => exact .step (hf q) ha

/-- the messages Subscribe replays: the persisted messages of the topic -/
abbrev replayMsgs (r : GcReg.St) (t : Nat) : List Nat :=
  if r.cfg.persistent && !r.logNil then (r.log.filter (fun e => e.1 == t)).map (·.2) else []

/-- the effect of the M_reg step `a` from `r` to `r'` on the instance `o` of `me` and on the sender list: one constructor
    per kind of synchronisation, and `other` for every registry step that starts no sender, hands out no id and finishes
    no sender -/
inductive Eff (me cap : Nat) (r : GcReg.St) (o : Option GcSub.St) (snd : Snd) :
    GcReg.Action → GcReg.St → Option GcSub.St × Snd → Prop
  /-- a dispatcher is told that its sender for `sid` is done: for `me` only once that sender has ended in M_sub -/
  | senderDone {d sid : Nat}
      (hdone : sid = me → ∃ q, o = some q ∧ snd.any (fun e => e.1 == some d && exited q e.2.2) = true) :
      Eff me cap r o snd (.senderDone d sid) (GcReg.finishSender r d sid) (o, snd)
  /-- `sendMessage`: a sender for `me` if it is in the snapshot -/
  | send {i t m : Nat} {rest : List Nat} {ao : Option (Nat × Nat)} {new : GcReg.Th} {r1 : GcReg.St}
      (hth : r.ths[i]? = some (.pub t (m :: rest) .send ao)) (hm : GcReg.ThStep r i (.pub t (m :: rest) .send ao) new r1) :
      Eff me cap r o snd (.step i) { r1 with ths := r.ths.set i new }
        ((if me ∈ GcReg.subsOf r t then [m] else []).foldl (spawn1 (some r.disp.length)) (o, snd))
  /-- Subscribe hands out id `me`: the subscriber object is created -/
  | create {i t sid : Nat} (hth : r.ths[i]? = some (.sub t sid .tlock)) (hme : r.nextSid = me) (ho : o = none) :
      Eff me cap r o snd (.step i)
        { r with tlocks := (t, i) :: r.tlocks, nextSid := r.nextSid + 1,
                 ths := r.ths.set i (.sub t r.nextSid .register) ++ [.td t r.nextSid .idle] }
        (some (createSt cap r), snd)
  /-- … another id (or `me` once more, which does not happen: ids are handed out once) -/
  | tlock {i t sid : Nat} (hth : r.ths[i]? = some (.sub t sid .tlock)) (hne : r.nextSid = me → o ≠ none) :
      Eff me cap r o snd (.step i)
        { r with tlocks := (t, i) :: r.tlocks, nextSid := r.nextSid + 1,
                 ths := r.ths.set i (.sub t r.nextSid .register) ++ [.td t r.nextSid .idle] }
        (o, snd)
  /-- Subscribe registers: for `me`, one replay sender per persisted message -/
  | register {i t sid : Nat} {new : GcReg.Th} {r1 : GcReg.St}
      (hth : r.ths[i]? = some (.sub t sid .register)) (hm : GcReg.ThStep r i (.sub t sid .register) new r1) :
      Eff me cap r o snd (.step i) { r1 with ths := r.ths.set i new }
        ((if sid = me then replayMsgs r t else []).foldl (spawn1 none) (o, snd))
  /-- every other step, with what the link invariants need of it: the registry fields they read stay (`hreg`: no id
      handed out, no sender started, the dispatchers as they were); the instance stays or sees its context cancelled or
      the Pub/Sub closing (`hidle`); and `me`'s unsubscribe goroutine gets past `s.Close()` only with M_sub through with it
      (`hg`, the one condition `effect` puts on such a step) -/
  | other {a : GcReg.Action} {r' : GcReg.St} {o' : Option GcSub.St}
      (hreg : r'.nextSid = r.nextSid ∧ r'.started = r.started ∧ r'.disp = r.disp) (hidle : Idle o o')
      (hg : ∀ i t, a = .step i → r.ths[i]? = some (.td t me .subClosed) → ∃ q, o = some q ∧ q.td = .done) :
      Eff me cap r o snd a r' (o', snd)

/-- the thread forms at which `effect` looks -/
def sync : GcReg.Th → Bool
  | .pub _ rest .send _ => !rest.isEmpty
  | .sub _ _ .tlock | .sub _ _ .register | .closer .start | .td _ _ .subClosed => true
  | _ => false

theorem effect_quiet {me cap i : Nat} {r r' : GcReg.St} {th : GcReg.Th} {x : Option GcSub.St × Snd}
    (hth : r.ths[i]? = some th) (hs : sync th = false) : effect me cap r r' (.step i) x = some x := by
  simp only [effect, hth]
  split
  all_goals first | (rename_i heq; cases heq; cases hs) | rfl

theorem effect_send {me cap i t m : Nat} {rest : List Nat} {ao : Option (Nat × Nat)} {r r' : GcReg.St}
    {x : Option GcSub.St × Snd} (hth : r.ths[i]? = some (.pub t (m :: rest) .send ao)) :
    effect me cap r r' (.step i) x =
      some ((if me ∈ GcReg.subsOf r t then [m] else []).foldl (spawn1 (some r.disp.length)) x) := by
  simp only [effect, hth, List.contains_iff_mem]
  split <;> rfl

theorem effect_register {me cap i t sid : Nat} {r r' : GcReg.St} {x : Option GcSub.St × Snd}
    (hth : r.ths[i]? = some (.sub t sid .register)) :
    effect me cap r r' (.step i) x = some ((if sid = me then replayMsgs r t else []).foldl (spawn1 none) x) := by
  simp only [effect, hth]
  split <;> rfl

variable {me cap : Nat} {r r' : GcReg.St} {o : Option GcSub.St} {snd : Snd} {x' : Option GcSub.St × Snd}

/-- thread `i` is not `me`'s unsubscribe goroutine about to go on past `s.Close()` -/
theorem not_at_subClosed {P : Prop} {i j t : Nat} {th : GcReg.Th} (hth : r.ths[i]? = some th)
    (hn : ∀ t, th ≠ .td t me .subClosed) (e : GcReg.Action.step i = .step j) (h : r.ths[j]? = some (.td t me .subClosed)) :
    P := by
  cases e; rw [hth] at h; cases h; exact absurd rfl (hn t)

theorem eff_quiet {i : Nat} {th : GcReg.Th} (hth : r.ths[i]? = some th) (hs : sync th = false)
    (hreg : r'.nextSid = r.nextSid ∧ r'.started = r.started ∧ r'.disp = r.disp)
    (he : effect me cap r r' (.step i) (o, snd) = some x') : Eff me cap r o snd (.step i) r' x' := by
  rw [effect_quiet hth hs] at he
  obtain rfl := Option.some.inj he
  exact .other hreg .same (fun _ _ e h => not_at_subClosed hth (fun _ hx => by subst hx; cases hs) e h)

theorem eff_of_effect {a : GcReg.Action} (hr : GcReg.Step r a r') (he : effect me cap r r' a (o, snd) = some x') :
    Eff me cap r o snd a r' x' := by
  cases hr with
  | newPub | newPubNested | newSub | newClose =>
    obtain rfl := Option.some.inj he; exact .other ⟨rfl, rfl, rfl⟩ .same nofun
  | cancel =>
    simp only [effect] at he
    split at he <;> obtain rfl := Option.some.inj he
    · exact .other ⟨rfl, rfl, rfl⟩ (idle_map (a := .cancel) nofun (fun _ => rfl) o) nofun
    · exact .other ⟨rfl, rfl, rfl⟩ .same nofun
  | senderDone =>
    simp only [effect] at he
    split at he
    · split at he
      · rename_i q
        split at he
        · rename_i hany; obtain rfl := Option.some.inj he; exact .senderDone (fun _ => ⟨q, rfl, hany⟩)
        · cases he
      · cases he
    · rename_i hsm; obtain rfl := Option.some.inj he; exact .senderDone (fun h => absurd h hsm)
  | subTlock i t hth =>
    simp only [effect, hth] at he
    split at he
    · rename_i hme
      split at he <;> obtain rfl := Option.some.inj he
      · exact .create hth hme rfl
      · exact .tlock hth (fun _ => nofun)
    · rename_i hme; obtain rfl := Option.some.inj he; exact .tlock hth (fun h => absurd h hme)
  | panic hth => exact eff_quiet hth rfl ⟨rfl, rfl, rfl⟩ he
  | thread hth hm =>
    cases hm with
    | pubSendWait hb =>
      rw [effect_send hth] at he; obtain rfl := Option.some.inj he; exact .send hth (.pubSendWait hb)
    | pubSendNext hb =>
      rw [effect_send hth] at he; obtain rfl := Option.some.inj he; exact .send hth (.pubSendNext hb)
    | subRegister =>
      rw [effect_register hth] at he; obtain rfl := Option.some.inj he; exact .register hth .subRegister
    | closeAgain | closeStart =>
      simp only [effect, hth] at he
      split at he <;> obtain rfl := Option.some.inj he
      · exact .other ⟨rfl, rfl, rfl⟩ (idle_map (a := .gClose) nofun (fun _ => rfl) o) (fun _ _ => not_at_subClosed hth nofun)
      · exact .other ⟨rfl, rfl, rfl⟩ .same (fun _ _ => not_at_subClosed hth nofun)
    | tdSubClosed =>
      simp only [effect, hth] at he
      split at he
      · split at he
        · rename_i q
          split at he
          · rename_i hdone; obtain rfl := Option.some.inj he
            exact .other ⟨rfl, rfl, rfl⟩ .same (fun _ _ _ _ => ⟨q, rfl, hdone⟩)
          · cases he
        · cases he
      · rename_i hsm; obtain rfl := Option.some.inj he
        exact .other ⟨rfl, rfl, rfl⟩ .same (fun _ _ => not_at_subClosed hth (fun _ hx => hsm (by cases hx; rfl)))
    | _ => exact eff_quiet hth rfl ⟨rfl, rfl, rfl⟩ he

/-- `act me cap s a = some s'`: the instance of `me` takes a step of its own, or the registry takes one, with its
    effect on the instance -/
inductive Step (me cap : Nat) (s : St) : Action → St → Prop
  | sub {a : GcSub.Action} {q q' : GcSub.St} (hq : s.sub = some q) (ha : subAllowed a = true)
      (hs : GcSub.act q a = some q') : Step me cap s (.sub a) { s with sub := some q' }
  | reg {a : GcReg.Action} {r' : GcReg.St} {x' : Option GcSub.St × Snd} (hr : GcReg.act s.reg a = some r')
      (he : Eff me cap s.reg s.sub s.snd a r' x') : Step me cap s (.reg a) ⟨r', x'.1, x'.2⟩

theorem act_reg {s s' : St} {a : GcReg.Action} (h : act me cap s (.reg a) = some s') :
    ∃ r' x', GcReg.act s.reg a = some r' ∧ effect me cap s.reg r' a (s.sub, s.snd) = some x' ∧ s' = ⟨r', x'.1, x'.2⟩ := by
  simp only [act] at h
  split at h
  · cases h
  · rename_i r' hr
    split at h
    · cases h
    · rename_i he; cases h; exact ⟨r', _, hr, he, rfl⟩

theorem step_of_act {s s' : St} {a : Action} (h : act me cap s a = some s') : Step me cap s a s' := by
  cases a with
  | reg a =>
    obtain ⟨r', x', hr, he, rfl⟩ := act_reg h
    exact .reg hr (eff_of_effect (GcReg.step_of_act hr) he)
  | sub a =>
    simp only [act] at h
    split at h
    · rename_i ha
      split at h
      · rename_i q hq
        cases hs : GcSub.act q a with
        | none => rw [hs] at h; cases h
        | some q' => rw [hs] at h; cases h; exact .sub hq ha hs
      · cases h
    · cases h

theorem idle_of_sub {a : GcSub.Action} {q q' : GcSub.St} (ha : subAllowed a = true) (hs : GcSub.act q a = some q') :
    Idle (some q) (some q') :=
  .step hs (fun h => by subst h; cases ha)

/-- the entries the sender list gets when senders for `msgs` are started under `od`, the first as publication `n` -/
def started (od : Option Nat) (msgs : List Nat) (n : Nat) : Snd := (msgs.zipIdx n).map fun e => (od, e.1, e.2)

theorem foldl_spawn_none (od : Option Nat) (msgs : List Nat) (snd : Snd) :
    msgs.foldl (spawn1 od) (none, snd) = (none, snd) := by
  induction msgs with
  | nil => rfl
  | cons m rest ih => exact ih

theorem foldl_spawn (od : Option Nat) (msgs : List Nat) (q : GcSub.St) (snd : Snd) :
    msgs.foldl (spawn1 od) (some q, snd) =
      (some { q with waiting := q.waiting ++ List.range' q.nextPub msgs.length, nextPub := q.nextPub + msgs.length },
       snd ++ started od msgs q.nextPub) := by
  induction msgs generalizing q snd with
  | nil => simp [started]
  | cons m rest ih =>
    rw [List.foldl_cons, spawn1, ih]
    simp [spawnSt, started, List.range'_succ, List.zipIdx_cons, Nat.add_assoc, Nat.add_comm 1]

theorem started_od {od : Option Nat} {msgs : List Nat} {n : Nat} {e : Option Nat × Nat × Nat} (h : e ∈ started od msgs n) :
    e.1 = od := by
  obtain ⟨_, _, rfl⟩ := List.mem_map.mp h; rfl

theorem started_msgs (od : Option Nat) (msgs : List Nat) (n : Nat) : (started od msgs n).map (·.2.1) = msgs := by
  rw [started, List.map_map]; exact List.zipIdx_map_fst n msgs

theorem started_pubs (od : Option Nat) (msgs : List Nat) (n : Nat) :
    (started od msgs n).map (·.2.2) = List.range' n msgs.length := by
  rw [started, List.map_map]; exact List.zipIdx_map_snd n msgs

/-- how the M_sub component may change in one step of the product: not at all / created / a finite M_sub run -/
inductive SubRun (cap : Nat) : Option GcSub.St → Option GcSub.St → Prop
  | none : SubRun cap none none
  | create (q0 : GcSub.St) (run : List GcSub.Action) (h : exec (GcSub.sys cap) (GcSub.init cap) run = some q0) : SubRun cap none (some q0)
  | run (q q' : GcSub.St) (run : List GcSub.Action) (h : exec (GcSub.sys cap) q run = some q') : SubRun cap (some q) (some q')

theorem subRun_refl (cap : Nat) (x : Option GcSub.St) : SubRun cap x x := by
  cases x with
  | none => exact .none
  | some q => exact .run q q [] rfl

theorem subRun_cons {cap : Nat} {q q1 : GcSub.St} {a : GcSub.Action} {o' : Option GcSub.St} (h : GcSub.act q a = some q1)
    (hr : SubRun cap (some q1) o') : SubRun cap (some q) o' := by
  cases hr with
  | run _ _ run hrun => exact .run q _ (a :: run) (by simp only [exec, GcSub.sys, h]; exact hrun)

theorem exec_append' {σ α : Type} (S : Sys σ α) (s0 s1 s2 : σ) (r1 r2 : List α)
    (h1 : exec S s0 r1 = some s1) (h2 : exec S s1 r2 = some s2) : exec S s0 (r1 ++ r2) = some s2 := by
  induction r1 generalizing s0 with
  | nil => simp [exec] at h1; subst h1; simpa using h2
  | cons a rest ih =>
    simp only [exec, List.cons_append] at h1 ⊢
    cases ha : S.act s0 a with
    | none => simp [ha] at h1
    | some s' => simp [ha] at h1 ⊢; exact ih s' h1

/-- starting senders is a run of `spawn` actions -/
theorem foldl_spawn_run (cap : Nat) (od : Option Nat) (msgs : List Nat) (o : Option GcSub.St) (snd : Snd) :
    SubRun cap o (msgs.foldl (spawn1 od) (o, snd)).1 := by
  induction msgs generalizing o snd with
  | nil => exact subRun_refl cap o
  | cons m rest ih =>
    cases o with
    | none => exact ih none snd
    | some q => exact subRun_cons (a := .spawn) rfl (ih _ _)

/-- the created subscriber object is a reachable state of M_sub: the environment actions `gClose` / `cancel` from `init` -/
theorem createSt_run (cap : Nat) (r : GcReg.St) : SubRun cap none (some (createSt cap r)) := by
  have run : ∀ g c : Bool, exec (GcSub.sys cap) (GcSub.init cap)
      ((if g then [GcSub.Action.gClose] else []) ++ (if c then [GcSub.Action.cancel] else [])) =
      some { GcSub.init cap with gClosing := g, ctxDone := c } := by
    intro g c; cases g <;> cases c <;> rfl
  exact .create _ _ (run r.closingSig (r.cancelled.contains r.nextSid))

/-- an M_reg step changes the M_sub component by creating it or by a finite run of M_sub actions -/
theorem eff_subRun {a : GcReg.Action} (he : Eff me cap r o snd a r' x') : SubRun cap o x'.1 := by
  cases he with
  | senderDone | tlock => exact subRun_refl cap o
  | send | register => exact foldl_spawn_run cap _ _ o snd
  | create _ _ ho => subst ho; exact createSt_run cap r
  | other _ hidle =>
    cases hidle with
    | same => exact subRun_refl cap o
    | step h => exact subRun_cons h (subRun_refl cap _)

/-- every step of the product is a step of M_reg (or leaves it alone) and a finite run of M_sub (or creates it) -/
theorem step_proj (me cap : Nat) (s s' : St) (a : Action) (h : act me cap s a = some s') :
    (s'.reg = s.reg ∨ ∃ ra, GcReg.act s.reg ra = some s'.reg) ∧ SubRun cap s.sub s'.sub := by
  cases step_of_act h with
  | sub hq _ hs => exact ⟨.inl rfl, hq ▸ subRun_cons hs (subRun_refl cap _)⟩
  | reg hr he => exact ⟨.inr ⟨_, hr⟩, eff_subRun he⟩

theorem reach_reg (me cap : Nat) (cfg : GcReg.Cfg) : ∀ s, Reach (sys me cap cfg) s → Reach (GcReg.sys cfg) s.reg := by
  intro s h
  induction h with
  | init => exact Reach.init
  | step _ hact ih =>
    rcases (step_proj me cap _ _ _ hact).1 with he | ⟨ra, hra⟩
    · rw [he]; exact ih
    · exact Reach.step ih hra

theorem reach_sub (me cap : Nat) (cfg : GcReg.Cfg) : ∀ s, Reach (sys me cap cfg) s →
    ∀ q, s.sub = some q → Reach (GcSub.sys cap) q := by
  intro s h
  induction h with
  | init => intro q hq; cases hq
  | @step s0 s1 a _ hact ih =>
    intro q hq
    have hr := (step_proj me cap _ _ _ hact).2
    rw [hq] at hr
    cases hs : s0.sub with
    | none =>
      rw [hs] at hr
      cases hr with
      | create _ run hrun => exact reach_of_exec (GcSub.sys cap) Reach.init run hrun
    | some q0 =>
      rw [hs] at hr
      cases hr with
      | run _ _ run hrun => exact reach_of_exec (GcSub.sys cap) (ih q0 hs) run hrun

end Wm.GcProd
