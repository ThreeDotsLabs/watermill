/-
  C01 – what an accepted trace means.  The conformance replay of the driver (`Mon.confRun`, WmModel/PipelineMon.lean)
  answers `ok` only if the recorded events, read as model actions, form a run of `Pipeline.act` that ends in a state
  where NO action is enabled.  Hence the theorems of Props/C01.lean apply to the model state the trace leads to:
  every source lineage is in that state's sink log.
-/
import WmModel.PipelineMon
import WmModel.Props.C01
namespace Wm.Pipeline
open Wm.Lts Wm.Pipeline.Mon

/-- the driver's candidate list is complete: every enabled action is a candidate -/
theorem candidates_complete (p : Shape) (s : St) (a : Action) (s' : St) (h : act p s a = some s') :
    a ∈ candidates s := by
  have tok {i t} (hi : s.toks[i]? = some t) (b : Action) (hb : b ∈ ([.deliver i, .publishOk i, .ack i, .sink i] : List Action) ++
      (List.range s.faults.length).map (Action.fault i)) : b ∈ candidates s :=
    List.mem_append_right _ (List.mem_flatMap.2 ⟨i, List.mem_range.2 (ListLemmas.lt_of_getElem? hi), hb⟩)
  have idx {α} {l : List α} {k x} (hk : l[k]? = some x) (f : Nat → Action) : f k ∈ (List.range l.length).map f :=
    List.mem_map_of_mem (List.mem_range.2 (ListLemmas.lt_of_getElem? hk))
  cases step_iff.1 h with
  | publishSource hk => exact List.mem_append_left _ (idx hk _)
  | deliver hi => exact tok hi _ (by simp)
  | fault hi hk => exact tok hi _ (List.mem_append_right _ (idx hk _))
  | publishOk hi => exact tok hi _ (by simp)
  | ack hi => exact tok hi _ (by simp)
  | sink hi => exact tok hi _ (by simp)

/-- the driver's terminal test is the `Terminal` of the theorems -/
theorem enabled_empty_terminal (p : Shape) (s : St) (h : (enabled p s).isEmpty = true) : ∀ a, act p s a = none := by
  intro a
  cases ha : act p s a with
  | none => rfl
  | some s' =>
    have : a ∈ enabled p s := List.mem_filter.2 ⟨candidates_complete p s a s' ha, by rw [ha]; rfl⟩
    rw [List.isEmpty_iff.1 h] at this
    cases this

/-- **an accepted trace is a terminating run of the model** -/
theorem conf_ok_sound (p : Shape) (srcs : List Nat) (faults : List Fault) (widths : List Nat) (evs : List Ev) (s : St) (idx : Nat)
    (h : confRun p widths s idx evs = .ok) :
    ∃ run s', exec (sys p srcs faults) s run = some s' ∧ ∀ a, act p s' a = none := by
  fun_induction confRun p widths s idx evs
  case case2 s _ he => exact ⟨[], s, rfl, enabled_empty_terminal p s he⟩
  case case8 ih => exact ih h
  case case10 a _ s1 hact ih =>
    obtain ⟨run, s2, hr, ht⟩ := ih h
    refine ⟨a :: run, s2, ?_, ht⟩
    simp only [exec, sys, hact]
    exact hr
  all_goals simp at h

/-- consequence: when the driver accepts a trace recorded with source script `0..N-1`, the model state reached has
    every one of the N lineages in its sink log (`terminal_delivered`), whatever happened in between -/
theorem conf_ok_delivers (p : Shape) (hw : p.WF) (n : Nat) (faults : List Fault) (widths : List Nat) (evs : List Ev)
    (h : confRun p widths (init (List.range n) faults) 0 evs = .ok) :
    ∃ run s', exec (sys p (List.range n) faults) (init (List.range n) faults) run = some s' ∧
      ∀ l, l < n → 1 ≤ delivered s' l := by
  obtain ⟨run, s', hr, ht⟩ := conf_ok_sound p (List.range n) faults widths evs _ 0 h
  refine ⟨run, s', hr, ?_⟩
  intro l hl
  have hreach : Reach (sys p (List.range n) faults) s' :=
    reach_of_exec (sys p (List.range n) faults) Reach.init run hr
  exact (terminal_delivered p (List.range n) faults hw s' hreach ht).2.2 l (List.mem_range.2 hl)

/-- non-vacuity: a two-stage chain, one message, handler error at stage 1; the recorded events are accepted -/
example : confRun ⟨[[1], [2]]⟩ [1, 1] (init (List.range 1) [⟨.handlerErr, 1⟩]) 0
    [.srcCall 0, .srcRet 0 true, .hStart 0 0 1, .pubCall 0 0 1, .pubInner 0 0 1 0, .hStart 1 0 2, .fault 1 0 2 .handlerErr,
     .pubAccepted 0 0 1 0, .pubRet 0 0 1 .ok, .settle 0 0 1 true, .settle 1 0 2 false, .hStart 1 0 3, .pubCall 1 0 3,
     .pubInner 1 0 3 0, .sinkRecv 0, .pubAccepted 1 0 3 0, .pubRet 1 0 3 .ok, .settle 1 0 3 true, .finish] = .ok := by decide

/-- non-vacuity with a multi-output stage: stage 0 emits two outputs per input (derived lineages 2·l, 2·l+1; the model
    shape lists the successor twice), the publisher refuses the first batch once; both derived lineages reach the sink -/
example : confRun (modelShape [[1]] [2]) [2] (init (List.range 1) [⟨.pubErr, 0⟩]) 0
    [.srcCall 0, .srcRet 0 true, .hStart 0 0 1, .pubCall 0 0 1, .fault 0 0 1 .pubErr, .pubRet 0 0 1 .err, .settle 0 0 1 false,
     .hStart 0 0 2, .pubCall 0 0 2, .pubInner 0 0 2 0, .pubInner 0 0 2 1, .sinkRecv 1, .sinkRecv 0, .pubAccepted 0 0 2 0,
     .pubAccepted 0 0 2 1, .pubRet 0 0 2 .ok, .settle 0 0 2 true, .finish] = .ok := by decide

end Wm.Pipeline
