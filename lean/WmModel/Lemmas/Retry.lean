/-
  What `loop` and `retry` compute, for C12 (`Props/C12.lean`).  One pass through the loop is taken apart once
  (`loop_cases`); four inductions on the fuel then say what a run is: every call is made by a pass whose guards held,
  from the state the failed call before it left (`loop_pass`); what is returned is read off the last call (`loop_last`);
  the count and the reason reported are true (`loop_why`); the hook is told the pass number and the wait (`loop_hooks`).
  `IsRun` collects them for `retry`, whose first call leaves the state in which pass 1 starts.
-/
import WmModel.Retry
namespace Wm.Retry

@[simp] theorem push_attempts (a : Attempt) (hk) (r : Run) : (r.push a hk).attempts = a :: r.attempts := rfl
@[simp] theorem push_hooks (a : Attempt) (hk) (r : Run) : (r.push a hk).hooks = hk ++ r.hooks := rfl
@[simp] theorem push_msgs (a : Attempt) (hk) (r : Run) : (r.push a hk).msgs = r.msgs := rfl
@[simp] theorem push_err (a : Attempt) (hk) (r : Run) : (r.push a hk).err = r.err := rfl
@[simp] theorem push_why (a : Attempt) (hk) (r : Run) : (r.push a hk).why = r.why := rfl

/-- the attempt made in pass `s.retryNum` when the timer is `late` -/
def attemptOf (cfg : Cfg) (sc : Script) (s : LoopSt) (late : Nat) : Attempt :=
  let it := sc.iter s.retryNum
  let st := s.now + it.lag + randomized cfg s.cur it.draw + late
  ⟨st, st + it.dur, it.out⟩

/-- the loop state after a failed attempt in pass `s.retryNum` -/
def nextSt (cfg : Cfg) (sc : Script) (s : LoopSt) (late e : Nat) : LoopSt :=
  ⟨s.retryNum + 1, nextCur cfg s.cur, (attemptOf cfg sc s late).stop, (sc.iter s.retryNum).out.outs, e⟩

@[simp] theorem nextSt_retryNum (cfg : Cfg) (sc : Script) (s : LoopSt) (late e : Nat) :
    (nextSt cfg sc s late e).retryNum = s.retryNum + 1 := rfl
@[simp] theorem nextSt_cur (cfg : Cfg) (sc : Script) (s : LoopSt) (late e : Nat) :
    (nextSt cfg sc s late e).cur = nextCur cfg s.cur := rfl
@[simp] theorem nextSt_now (cfg : Cfg) (sc : Script) (s : LoopSt) (late e : Nat) :
    (nextSt cfg sc s late e).now = (attemptOf cfg sc s late).stop := rfl
@[simp] theorem nextSt_prod (cfg : Cfg) (sc : Script) (s : LoopSt) (late e : Nat) :
    (nextSt cfg sc s late e).prod = (sc.iter s.retryNum).out.outs := rfl
@[simp] theorem nextSt_err (cfg : Cfg) (sc : Script) (s : LoopSt) (late e : Nat) :
    (nextSt cfg sc s late e).err = e := rfl
@[simp] theorem attemptOf_out (cfg : Cfg) (sc : Script) (s : LoopSt) (late : Nat) :
    (attemptOf cfg sc s late).out = (sc.iter s.retryNum).out := rfl
theorem attemptOf_start (cfg : Cfg) (sc : Script) (s : LoopSt) (late : Nat) :
    (attemptOf cfg sc s late).start =
      s.now + (sc.iter s.retryNum).lag + randomized cfg s.cur (sc.iter s.retryNum).draw + late := rfl
theorem attemptOf_stop (cfg : Cfg) (sc : Script) (s : LoopSt) (late : Nat) :
    (attemptOf cfg sc s late).stop = (attemptOf cfg sc s late).start + (sc.iter s.retryNum).dur := rfl

def hookOf (cfg : Cfg) (sc : Script) (s : LoopSt) : List (Nat × Nat) :=
  if cfg.hook then [(s.retryNum, randomized cfg s.cur (sc.iter s.retryNum).draw)] else []

theorem stops_iff (cfg : Cfg) (t : Nat) : stops cfg t = true ↔ cfg.maxElapsed ≠ 0 ∧ cfg.maxElapsed < t := by
  simp [stops]

theorem le_of_stops_false (cfg : Cfg) (t : Nat) (hE : cfg.maxElapsed ≠ 0) (h : stops cfg t = false) :
    t ≤ cfg.maxElapsed :=
  Nat.le_of_not_lt fun hlt => by rw [(stops_iff cfg t).mpr ⟨hE, hlt⟩] at h; cases h

/-- the five ways one pass through the loop can go (`r` is the result of the loop) -/
inductive PassCase (cfg : Cfg) (sc : Script) (t0 fuel : Nat) (s : LoopSt) (r : Run) : Prop
  | stop : stops cfg (s.now + (sc.iter s.retryNum).lag - t0) = true →
      r = ⟨[], [], s.prod, some s.err, .backoffStop⟩ → PassCase cfg sc t0 fuel s r
  | ctx : stops cfg (s.now + (sc.iter s.retryNum).lag - t0) = false → (sc.iter s.retryNum).pick = .ctxDone →
      r = ⟨[], [], s.prod, some s.err, .ctxDone⟩ → PassCase cfg sc t0 fuel s r
  | ok (late : Nat) : stops cfg (s.now + (sc.iter s.retryNum).lag - t0) = false → (sc.iter s.retryNum).pick = .timer late →
      (sc.iter s.retryNum).out.err = none →
      r = ⟨[attemptOf cfg sc s late], [], (sc.iter s.retryNum).out.outs, none, .success⟩ → PassCase cfg sc t0 fuel s r
  | last (late e : Nat) : stops cfg (s.now + (sc.iter s.retryNum).lag - t0) = false → (sc.iter s.retryNum).pick = .timer late →
      (sc.iter s.retryNum).out.err = some e → ((s.retryNum + 1 : Nat) : Int) > cfg.maxRetries →
      r = ⟨[attemptOf cfg sc s late], hookOf cfg sc s, [], some e, .exhausted⟩ → PassCase cfg sc t0 fuel s r
  | again (late e : Nat) : stops cfg (s.now + (sc.iter s.retryNum).lag - t0) = false → (sc.iter s.retryNum).pick = .timer late →
      (sc.iter s.retryNum).out.err = some e → ((s.retryNum + 1 : Nat) : Int) ≤ cfg.maxRetries →
      r = (loop cfg sc t0 fuel (nextSt cfg sc s late e)).push (attemptOf cfg sc s late) (hookOf cfg sc s) →
      PassCase cfg sc t0 fuel s r

theorem loop_cases (cfg : Cfg) (sc : Script) (t0 fuel : Nat) (s : LoopSt) :
    PassCase cfg sc t0 fuel s (loop cfg sc t0 (fuel + 1) s) := by
  unfold loop
  simp only []
  cases hst : stops cfg (s.now + (sc.iter s.retryNum).lag - t0)
  · simp only [Bool.false_eq_true, ↓reduceIte]
    cases hp : (sc.iter s.retryNum).pick with
    | ctxDone => exact .ctx hst hp rfl
    | timer late =>
      simp only []
      cases he : (sc.iter s.retryNum).out.err with
      | none => simp only []; exact .ok late hst hp he rfl
      | some e =>
        simp only []
        by_cases hm : ((s.retryNum + 1 : Nat) : Int) > cfg.maxRetries
        · rw [if_pos hm]; exact .last late e hst hp he hm rfl
        · rw [if_neg hm]; exact .again late e hst hp he (by omega) rfl
  · simp only [↓reduceIte]
    exact .stop hst rfl

/-! ### the calls -/

/-- the state in which pass `i + 1` starts: call `i` (`a`) failed with `e`, the interval has been raised `i` times,
    and the back-off was `Reset` `resetLag` after call 0 -/
def stAfter (cfg : Cfg) (sc : Script) (i : Nat) (a : Attempt) (e : Nat) : LoopSt :=
  ⟨i + 1, curAt cfg i, if i = 0 then a.stop + sc.resetLag else a.stop, a.out.outs, e⟩

theorem stAfter_retryNum (cfg : Cfg) (sc : Script) (i : Nat) (a : Attempt) (e : Nat) :
    (stAfter cfg sc i a e).retryNum = i + 1 := rfl
theorem stAfter_cur (cfg : Cfg) (sc : Script) (i : Nat) (a : Attempt) (e : Nat) :
    (stAfter cfg sc i a e).cur = curAt cfg i := rfl

theorem nextSt_stAfter (cfg : Cfg) (sc : Script) (i : Nat) (p : Attempt) (e late e' : Nat) :
    nextSt cfg sc (stAfter cfg sc i p e) late e' =
      stAfter cfg sc (i + 1) (attemptOf cfg sc (stAfter cfg sc i p e) late) e' := rfl

theorem stop_le_stAfter_now (cfg : Cfg) (sc : Script) (i : Nat) (a : Attempt) (e : Nat) :
    a.stop ≤ (stAfter cfg sc i a e).now := by
  unfold stAfter
  split <;> simp

/-- `b` is the call of the pass that starts in state `s`: the back-off did not stop and the timer fired -/
def CallOf (cfg : Cfg) (sc : Script) (t0 : Nat) (s : LoopSt) (b : Attempt) : Prop :=
  stops cfg (s.now + (sc.iter s.retryNum).lag - t0) = false ∧
  ∃ late, (sc.iter s.retryNum).pick = .timer late ∧ b = attemptOf cfg sc s late

theorem loop_head (cfg : Cfg) (sc : Script) (t0 fuel : Nat) (s : LoopSt) (b : Attempt)
    (hb : (loop cfg sc t0 fuel s).attempts[0]? = some b) : CallOf cfg sc t0 s b := by
  cases fuel with
  | zero => simp [loop] at hb
  | succ fuel =>
    cases loop_cases cfg sc t0 fuel s with
    | stop _ hr | ctx _ _ hr => simp [hr] at hb
    | ok late hs hk _ hr | last late _ hs hk _ _ hr | again late _ hs hk _ _ hr =>
      exact ⟨hs, late, hk, by simpa [hr] using hb.symm⟩

/-- `a` is the call before `b`; before the loop's first call that is `p`, made before the loop -/
theorem loop_pass (cfg : Cfg) (sc : Script) (t0 : Nat) : ∀ fuel i p e, p.out.err = some e →
    ∀ n a b, (p :: (loop cfg sc t0 fuel (stAfter cfg sc i p e)).attempts)[n]? = some a →
      (loop cfg sc t0 fuel (stAfter cfg sc i p e)).attempts[n]? = some b →
      ∃ e', a.out.err = some e' ∧ CallOf cfg sc t0 (stAfter cfg sc (i + n) a e') b := by
  intro fuel
  induction fuel with
  | zero => intro i p e _ n a b _ hb; simp [loop] at hb
  | succ fuel ih =>
    intro i p e hp n a b ha hb
    cases n with
    | zero => cases Option.some.inj ha; exact ⟨e, hp, loop_head cfg sc t0 _ _ b hb⟩
    | succ n =>
      cases loop_cases cfg sc t0 fuel (stAfter cfg sc i p e) with
      | stop _ hr | ctx _ _ hr | ok _ _ _ _ hr | last _ _ _ _ _ _ hr => simp [hr] at hb
      | again late e' _ _ he _ hr =>
        rw [hr, push_attempts, nextSt_stAfter] at ha hb
        rw [← Nat.add_assoc, Nat.add_right_comm]
        exact ih (i + 1) _ e' he n a b ha hb

theorem loop_start_le_stop (cfg : Cfg) (sc : Script) (t0 : Nat) : ∀ (fuel : Nat) (s : LoopSt),
    ∀ a ∈ (loop cfg sc t0 fuel s).attempts, a.start ≤ a.stop := by
  intro fuel
  induction fuel with
  | zero => intro s a h; simp [loop] at h
  | succ fuel ih =>
    intro s a h
    cases loop_cases cfg sc t0 fuel s with
    | stop _ hr | ctx _ _ hr => simp [hr] at h
    | ok late _ _ _ hr | last late _ _ _ _ _ hr => simp [hr] at h; subst h; exact Nat.le_add_right _ _
    | again late e _ _ _ _ hr =>
      rw [hr, push_attempts, List.mem_cons] at h
      rcases h with rfl | h
      · exact Nat.le_add_right _ _
      · exact ih _ a h

/-! ### what is returned, and why -/

/-- error and messages returned are read off the last call made, by the loop or (`p`) before it -/
theorem loop_last (cfg : Cfg) (sc : Script) (t0 : Nat) : ∀ fuel s p r, loop cfg sc t0 fuel s = r →
    p.out.outs = s.prod → p.out.err = some s.err →
    ∃ a, (p :: r.attempts).getLast? = some a ∧ r.err = a.out.err ∧
      r.msgs = (if r.why = .exhausted then [] else a.out.outs) ∧ (r.why = .success ↔ a.out.err = none) := by
  intro fuel
  induction fuel with
  | zero => intro s p r hr h1 h2; subst hr; exact ⟨p, by simp [loop, h1, h2]⟩
  | succ fuel ih =>
    intro s p r hr h1 h2
    subst hr
    cases loop_cases cfg sc t0 fuel s with
    | stop _ hr | ctx _ _ hr => exact ⟨p, by simp [hr, h1, h2]⟩
    | ok late _ _ he hr | last late _ _ _ he _ hr => exact ⟨attemptOf cfg sc s late, by simp [hr, he]⟩
    | again late e _ _ he _ hr =>
      rw [hr]
      simp only [push_attempts, push_err, push_msgs, push_why, List.getLast?_cons_cons]
      exact ih (nextSt cfg sc s late e) (attemptOf cfg sc s late) _ rfl rfl he

/-- the count and the reason reported are true; `attempts.length + retryNum` is the pass in which the loop ended
    without a call, or the one after its last call.  Without fuel the loop ends only while
    `retryNum + fuel ≤ MaxRetries`. -/
theorem loop_why (cfg : Cfg) (sc : Script) (t0 : Nat) : ∀ fuel s r, loop cfg sc t0 fuel s = r →
    ((s.retryNum : Int) ≤ cfg.maxRetries → ((r.attempts.length + s.retryNum : Nat) : Int) ≤ cfg.maxRetries + 1) ∧
    (r.why = .exhausted → cfg.maxRetries < ((r.attempts.length + s.retryNum : Nat) : Int)) ∧
    (r.why = .ctxDone → (sc.iter (r.attempts.length + s.retryNum)).pick = .ctxDone) ∧
    (r.why = .backoffStop → cfg.maxElapsed ≠ 0) ∧
    (r.why = .outOfFuel → fuel = 0 ∨ ((s.retryNum + fuel : Nat) : Int) ≤ cfg.maxRetries) := by
  intro fuel
  induction fuel with
  | zero => intro s r hr; subst hr; simp [loop]; omega
  | succ fuel ih =>
    intro s r hr
    subst hr
    cases loop_cases cfg sc t0 fuel s with
    | stop hs hr => simp [hr]; exact ⟨by omega, ((stops_iff cfg _).mp hs).1⟩
    | ctx _ hp hr => simp [hr]; exact ⟨by omega, hp⟩
    | ok late _ _ he hr => simp [hr]; omega
    | last late e _ _ he hm hr => simp [hr]; omega
    | again late e _ _ he hm hr =>
      obtain ⟨h0, h1, h2, h3, h4⟩ := ih (nextSt cfg sc s late e) _ rfl
      rw [hr]
      simp only [push_why, push_attempts, List.length_cons, nextSt_retryNum, Nat.add_right_comm _ 1] at h0 h1 h2 h4 ⊢
      exact ⟨fun _ => h0 hm, h1, h2, h3, fun h => by have := h4 h; omega⟩

/-! ### the hook -/

def failed (a : Attempt) : Bool := a.out.err.isSome

/-- what `OnRetryHook` is told in pass `k`: the pass number and the wait computed from the interval of that pass -/
def hookAt (cfg : Cfg) (sc : Script) (k : Nat) : Nat × Nat :=
  (k, randomized cfg (curAt cfg (k - 1)) (sc.iter k).draw)

theorem hookOf_stAfter (cfg : Cfg) (sc : Script) (i : Nat) (p : Attempt) (e : Nat) :
    hookOf cfg sc (stAfter cfg sc i p e) = if cfg.hook then [hookAt cfg sc (i + 1)] else [] := rfl

theorem loop_hooks (cfg : Cfg) (sc : Script) (t0 : Nat) : ∀ fuel i p e r,
    loop cfg sc t0 fuel (stAfter cfg sc i p e) = r →
    r.hooks = if cfg.hook then (List.range' (i + 1) (r.attempts.filter failed).length).map (hookAt cfg sc) else [] := by
  intro fuel
  induction fuel with
  | zero => intro i p e r hr; subst hr; simp [loop]
  | succ fuel ih =>
    intro i p e r hr
    subst hr
    cases loop_cases cfg sc t0 fuel (stAfter cfg sc i p e) with
    | stop _ hr | ctx _ _ hr => simp [hr]
    | ok late _ _ he hr => simp [hr, failed, he]
    | last late e' _ _ he _ hr => simp [hr, failed, he, hookOf_stAfter]
    | again late e' _ _ he _ hr =>
      rw [hr, push_hooks, push_attempts, nextSt_stAfter, ih (i + 1) _ e' _ rfl, hookOf_stAfter]
      cases cfg.hook <;> simp [failed, he, List.range'_succ]

/-! ### `retry`: call 0, then the loop from the state call 0 left -/

def firstCall (sc : Script) : Attempt := ⟨0, sc.firstDur, sc.first⟩

theorem retry_ok (cfg : Cfg) (sc : Script) (h : sc.first.err = none) :
    retry cfg sc = ⟨[firstCall sc], [], sc.first.outs, none, .success⟩ := by
  unfold retry
  simp only [h]
  rfl

theorem retry_failed (cfg : Cfg) (sc : Script) (e : Nat) (h : sc.first.err = some e) :
    retry cfg sc = (loop cfg sc (sc.firstDur + sc.resetLag) (fuelFor cfg) (stAfter cfg sc 0 (firstCall sc) e)).push
      (firstCall sc) [] := by
  unfold retry
  simp only [h]
  rfl

/-- what a run of `Retry` is: call 0, then one call per pass, each from the state the failed call before it left; what
    is returned is read off the last call; count and reason are true; the hook is told pass number and wait -/
structure IsRun (cfg : Cfg) (sc : Script) (r : Run) : Prop where
  first : r.attempts[0]? = some (firstCall sc)
  pass : ∀ i a b, r.attempts[i]? = some a → r.attempts[i + 1]? = some b →
    ∃ e, a.out.err = some e ∧ CallOf cfg sc (sc.firstDur + sc.resetLag) (stAfter cfg sc i a e) b
  last : ∃ a, r.attempts.getLast? = some a ∧ r.err = a.out.err ∧
    r.msgs = (if r.why = .exhausted then [] else a.out.outs) ∧ (r.why = .success ↔ a.out.err = none)
  count : 1 ≤ cfg.maxRetries → (r.attempts.length : Int) ≤ cfg.maxRetries + 1
  exhausted : r.why = .exhausted → cfg.maxRetries < (r.attempts.length : Int)
  ctxDone : r.why = .ctxDone → (sc.iter r.attempts.length).pick = .ctxDone
  backoffStop : r.why = .backoffStop → cfg.maxElapsed ≠ 0
  fuel : r.why ≠ .outOfFuel
  hooks : r.hooks =
    if cfg.hook then (List.range' 1 (r.attempts.tail.filter failed).length).map (hookAt cfg sc) else []

theorem retry_isRun (cfg : Cfg) (sc : Script) : IsRun cfg sc (retry cfg sc) := by
  cases h : sc.first.err with
  | none =>
    rw [retry_ok cfg sc h]
    exact ⟨rfl, by simp, ⟨firstCall sc, by simp [firstCall, h]⟩, by simp; omega, by simp, by simp, by simp, by simp, by simp⟩
  | some e =>
    obtain ⟨h0, h1, h2, h3, h4⟩ :=
      loop_why cfg sc (sc.firstDur + sc.resetLag) (fuelFor cfg) (stAfter cfg sc 0 (firstCall sc) e) _ rfl
    rw [retry_failed cfg sc e h]
    refine ⟨rfl, fun i a b ha hb => by simpa using loop_pass cfg sc _ _ 0 (firstCall sc) e h i a b ha hb,
      loop_last cfg sc _ _ _ (firstCall sc) _ rfl rfl h, h0, h1, h2, h3, fun hw => ?_,
      loop_hooks cfg sc _ _ 0 (firstCall sc) e _ rfl⟩
    have := h4 hw
    rw [stAfter_retryNum, fuelFor] at this
    omega

end Wm.Retry
