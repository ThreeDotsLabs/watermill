/-
  C02 – Router settles each message once: Ack iff handled and outputs published.
  Model: `WmModel/Handle.lean` (`handle`), settlement: `WmModel/Ack.lean`.
  All statements hold for every handler configuration `c`, every behaviour `o` of the handler chain (any
  list of outputs of any length over any type of message identities `α`, with/without error, any panic value,
  with/without a settlement made by the handler itself) and every publisher behaviour `p`.
  They are read off the three parts of the effect list (`WmModel/Lemmas/HandleLemmas.lean`: `handle_eq`).
-/
import WmModel.Handle
import WmModel.Props.C03
import WmModel.Lemmas.HandleLemmas
namespace Wm.Handle

variable {α : Type}

/-- the condition under which the statement of C02 demands an Ack: the chain returned without error and
    every message it returned was accepted by the handler's publisher -/
def AckCond (c : Cfg) (o : Outcome α) (p : PubOutcome) : Prop :=
  ∃ outs, o.result = .returns outs false ∧ (outs = [] ∨ (c.kind = .withPub ∧ p = .accept))

/-! ## 1. the chain is invoked, then the message is settled exactly once -/

/-- **the handler chain is invoked** exactly once, before anything else -/
theorem handler_called_first_once (c : Cfg) (o : Outcome α) (p : PubOutcome) :
    ∃ rest, handle c o p = .handlerCalled :: rest ∧ ∀ e ∈ rest, e.isHandlerCalled = false := by
  refine ⟨_, handle_eq c o p, fun e he => ?_⟩
  simp only [List.mem_append] at he
  rcases he with h | h | h
  · rcases mem_front h with rfl | rfl | ⟨_, rfl⟩ <;> rfl
  · obtain ⟨_, _, _, _, rfl | rfl⟩ := mem_published h <;> rfl
  · rcases mem_settleTail h with rfl | rfl | rfl | rfl <;> rfl

/-- **settled exactly once**: `handleMessage` issues exactly one Ack/Nack of its own -/
theorem settles_exactly_once (c : Cfg) (o : Outcome α) (p : PubOutcome) :
    ((handle c o p).filter Effect.isRouterSettle).length = 1 := by
  have h0 : (body c o p).filter Effect.isRouterSettle = [] :=
    List.filter_eq_nil_iff.mpr fun e he => by simp [body_no_settle c o p e he]
  have hdn : (Effect.done : Effect α).isRouterSettle = false := rfl
  simp [handle_eq_body, h0, decision_isSettle, hdn]

/-- … and that settlement is the last thing it does before `runningHandlersWg.Done()` -/
theorem settle_is_last_before_done (c : Cfg) (o : Outcome α) (p : PubOutcome) :
    ∃ b s, handle c o p = b ++ [s, .done] ∧ s.isRouterSettle = true ∧ ∀ e ∈ b, e.isRouterSettle = false :=
  ⟨_, _, handle_eq_body c o p, decision_isSettle _, body_no_settle c o p⟩

/-! ## 2. Ack iff no error and every output accepted; Nack otherwise -/

theorem ending_accept_iff (c : Cfg) (o : Outcome α) (p : PubOutcome) : ending c o p = .accept ↔ AckCond c o p := by
  rcases o with ⟨s, r⟩
  rcases r with ⟨outs, _ | _⟩ | v
  · by_cases hne : outs = []
    · simp [hne, ending_nil, AckCond]
    · by_cases hk : c.kind = .withPub
      · simp [ending_withPub hk s hne, AckCond, hne, hk]
      · simp [ending_nopub hk s hne, AckCond, hne, hk]
  · simp [ending_error, AckCond]
  · simp [ending_panics, AckCond]

/-- **Ack iff** the chain returned no error (and did not panic) and every message it returned was accepted
    by the handler's publisher (nothing to publish, or a real publisher that accepted the call) -/
theorem ack_iff (c : Cfg) (o : Outcome α) (p : PubOutcome) :
    .routerAck ∈ handle c o p ↔ AckCond c o p := by
  rw [mem_handle_settle c o p .routerAck rfl, decision_eq_ack, ending_accept_iff]

/-- the same for a publisher whose verdict depends on the messages it is handed: Ack iff the chain returned no
    error and the publisher accepts the call that carries all the returned messages -/
theorem ack_iff_with (c : Cfg) (o : Outcome α) (f : List α → PubOutcome) :
    .routerAck ∈ handleWith c o f ↔
      ∃ outs, o.result = .returns outs false ∧ (outs = [] ∨ (c.kind = .withPub ∧ f outs = .accept)) := by
  rw [handleWith, ack_iff, AckCond]
  rcases o with ⟨s, ⟨outs, e⟩ | v⟩
  · constructor <;> rintro ⟨_, h, h2⟩ <;> cases h <;> exact ⟨_, rfl, h2⟩
  · simp

/-- **Nack iff not** that: the router issues a Nack in exactly the complementary cases -/
theorem nack_iff (c : Cfg) (o : Outcome α) (p : PubOutcome) :
    .routerNack ∈ handle c o p ↔ ¬ AckCond c o p := by
  rw [mem_handle_settle c o p .routerNack rfl, decision_eq_nack, Ne, ending_accept_iff]

/-- never both -/
theorem not_ack_and_nack (c : Cfg) (o : Outcome α) (p : PubOutcome) :
    ¬ (.routerAck ∈ handle c o p ∧ .routerNack ∈ handle c o p) := by
  rw [ack_iff, nack_iff]; exact fun h => h.2 h.1

/-- **Nack if the chain returned an error** (with or without messages) -/
theorem nack_on_error (c : Cfg) (s : Option Settle) (outs : List α) (p : PubOutcome) :
    .routerNack ∈ handle c ⟨s, .returns outs true⟩ p ∧ .routerAck ∉ handle c ⟨s, .returns outs true⟩ p := by
  rw [nack_iff, ack_iff]; simp [AckCond]

/-- **Nack if the chain panicked** (value, error or nil) -/
theorem nack_on_panic (c : Cfg) (s : Option Settle) (v : PanicVal) (p : PubOutcome) :
    .routerNack ∈ handle c (⟨s, .panics v⟩ : Outcome α) p ∧ .routerAck ∉ handle c (⟨s, .panics v⟩ : Outcome α) p ∧
    .recovered ∈ handle c (⟨s, .panics v⟩ : Outcome α) p := by
  rw [nack_iff, ack_iff]; simp [AckCond, handle]

/-- **Nack if publishing failed or panicked** -/
theorem nack_on_publish_failure (c : Cfg) (s : Option Settle) (outs : List α) (p : PubOutcome)
    (hne : outs ≠ []) (hp : p = .error ∨ p = .panic) :
    .routerNack ∈ handle c ⟨s, .returns outs false⟩ p ∧ .routerAck ∉ handle c ⟨s, .returns outs false⟩ p := by
  rw [nack_iff, ack_iff]
  rcases hp with hp | hp <;> subst hp <;> simp [AckCond, hne]

/-- **a Nack has one of the stated reasons**: with a real publisher and a chain that returned messages without an
    error, the Router nacks only after it has offered exactly those messages to the publisher and that call failed or
    panicked – never without asking the publisher -/
theorem nack_only_after_asking_publisher (c : Cfg) (s : Option Settle) (outs : List α) (p : PubOutcome)
    (hk : c.kind = .withPub) (hne : outs ≠ []) (h : .routerNack ∈ handle c ⟨s, .returns outs false⟩ p) :
    .publishCall (pubTopic c) outs ∈ handle c ⟨s, .returns outs false⟩ p ∧
    .publishRet p ∈ handle c ⟨s, .returns outs false⟩ p ∧ (p = .error ∨ p = .panic) := by
  have hpub := (published_call (c := c) (o := ⟨s, .returns outs false⟩) rfl hne (by simp [hk]) p).1
  rw [effPub_withPub hk] at hpub
  refine ⟨by simp [handle_eq, hpub], by simp [handle_eq, hpub], ?_⟩
  rw [nack_iff] at h
  cases p
  · exact absurd ⟨outs, rfl, Or.inr ⟨hk, rfl⟩⟩ h
  · exact Or.inl rfl
  · exact Or.inr rfl

/-- **outputs in a no-publisher handler are a failure**: `AddNoPublisherHandler` (disabledPublisher) and a nil
    publisher both lead to Nack as soon as the chain returns a message -/
theorem nopub_outputs_nack (c : Cfg) (s : Option Settle) (outs : List α) (p : PubOutcome)
    (hne : outs ≠ []) (hk : c.kind ≠ .withPub) :
    .routerNack ∈ handle c ⟨s, .returns outs false⟩ p ∧ .routerAck ∉ handle c ⟨s, .returns outs false⟩ p := by
  rw [nack_iff, ack_iff]; simp [AckCond, hne, hk]

/-! ## 3. the Ack is never sent before the publish call has returned successfully -/

/-- **Ack only after Publish returned successfully**: split the effects at the router's Ack – no publish
    effect lies after it, the only way `Publish` ended before it is `accept`, and when there was something to
    publish, the call with exactly those messages and its successful return are among the effects before the Ack -/
theorem publish_before_ack (c : Cfg) (o : Outcome α) (p : PubOutcome) (pre suf : List (Effect α))
    (h : handle c o p = pre ++ .routerAck :: suf) :
    (∀ e ∈ suf, e.isPublish = false) ∧
    (∀ r, .publishRet r ∈ pre → r = .accept) ∧
    (∀ outs, o.result = .returns outs false → outs ≠ [] →
        ∃ a, pre = a ++ [.publishCall (pubTopic c) outs, .publishRet .accept]) := by
  obtain ⟨hpre, hdec, hsuf⟩ := handle_split rfl h
  have hacc := decision_eq_ack.mp hdec.symm
  refine ⟨?_, ?_, ?_⟩
  · intro e he; subst hsuf; simp at he; subst he; rfl
  · intro r hr
    have hmem : .publishRet r ∈ handle c o p := by rw [h]; simp [hr]
    exact publishRet_accept hacc (mem_published_of_isPublish hmem rfl)
  · intro outs hres hne
    obtain ⟨outs', hres', hor⟩ := (ending_accept_iff c o p).mp hacc
    rw [hres] at hres'; injection hres' with ho _; subst ho
    rcases hor with h0 | ⟨hk, _⟩
    · exact absurd h0 hne
    · obtain ⟨hpub, hend⟩ := published_call (c := c) hres hne (by simp [hk]) p
      rw [hend] at hacc
      exact ⟨.handlerCalled :: front o, by simp [hpre, body, hpub, hend, hacc, recovery]⟩

/-- index form: the position of any publish return is smaller than the position of the router's Ack, and that
    return is a successful one -/
theorem publish_before_ack_idx (c : Cfg) (o : Outcome α) (p : PubOutcome) (i j : Nat) (r : PubOutcome)
    (hi : (handle c o p)[i]? = some .routerAck) (hj : (handle c o p)[j]? = some (.publishRet r)) :
    j < i ∧ r = .accept := by
  obtain ⟨j', rfl, hlt, hj'⟩ := publish_pos hj rfl
  constructor
  · rw [handle_eq_body] at hi
    obtain ⟨i', rfl, _⟩ := getElem?_append_of_not_mem_left hi fun hm => by cases body_no_settle c o p _ hm
    simp only [body, List.length_append, List.length_cons]
    omega
  · have hacc := decision_eq_ack.mp ((mem_handle_settle c o p _ rfl).mp (List.mem_of_getElem? hi))
    exact publishRet_accept hacc (List.mem_of_getElem? hj')

/-! ## 4. messages returned together with an error are not published (nor anything after a panic) -/

theorem no_publish_on_error (c : Cfg) (s : Option Settle) (outs : List α) (p : PubOutcome) :
    ∀ e ∈ handle c ⟨s, .returns outs true⟩ p, e.isPublish = false :=
  no_publish_of_published_nil rfl

theorem no_publish_on_panic (c : Cfg) (s : Option Settle) (v : PanicVal) (p : PubOutcome) :
    ∀ e ∈ handle c (⟨s, .panics v⟩ : Outcome α) p, e.isPublish = false :=
  no_publish_of_published_nil rfl

/-! ## 5. at most one Publish call, carrying exactly the returned messages in their order -/

theorem published_eq (c : Cfg) (o : Outcome α) (p : PubOutcome) :
    published c o p =
      match o.result with
      | .returns (x :: xs) false =>
        if c.kind = .nilPub then [] else [.publishCall (pubTopic c) (x :: xs), .publishRet (effPub c p)]
      | _ => [] := by
  rcases o with ⟨s, r⟩
  rcases r with ⟨_ | ⟨x, xs⟩, _ | _⟩ | v <;> try rfl
  by_cases hk : c.kind = .nilPub
  · simp [published, publishProduced_nilPub hk, hk]
  · simp [hk, (published_call (o := ⟨s, .returns (x :: xs) false⟩) rfl (by simp) hk p).1]

/-- all publish effects of one `handleMessage`, in order -/
theorem publish_effects (c : Cfg) (o : Outcome α) (p : PubOutcome) :
    (handle c o p).filter Effect.isPublish =
      match o.result with
      | .returns (x :: xs) false =>
        if c.kind = .nilPub then [] else [.publishCall (pubTopic c) (x :: xs), .publishRet (effPub c p)]
      | _ => [] := by
  rw [filter_handle c o p _ fun _ h => h, ← published_eq]
  exact List.filter_eq_self.mpr fun e h => by obtain ⟨_, _, _, _, rfl | rfl⟩ := mem_published h <;> rfl

/-- the `Publish` calls of one `handleMessage`: exactly one, with the handler's publish topic and exactly the messages
    the chain returned (same objects, same order), when the chain returned messages without an error and a publisher
    is set; none otherwise – in particular none for an empty result (`publish_effects`: the same with the returns of
    the calls; `publish_call_then_ret`: the return follows its call immediately). -/
theorem publish_at_most_once_in_order (c : Cfg) (o : Outcome α) (p : PubOutcome) :
    (handle c o p).filter Effect.isPublishCall =
      match o.result with
      | .returns (x :: xs) false => if c.kind = .nilPub then [] else [.publishCall (pubTopic c) (x :: xs)]
      | _ => [] := by
  rw [filter_handle c o p _ fun e h => by simp [Effect.isPublish, h], published_eq]
  rcases o with ⟨s, r⟩
  rcases r with ⟨_ | ⟨x, xs⟩, _ | _⟩ | v <;> try rfl
  by_cases hk : c.kind = .nilPub <;> simp only [hk, ↓reduceIte] <;> rfl

/-- no call at all for an empty result -/
theorem no_publish_when_no_outputs (c : Cfg) (s : Option Settle) (p : PubOutcome) :
    ∀ e ∈ handle c (⟨s, .returns [] false⟩ : Outcome α) p, e.isPublish = false :=
  no_publish_of_published_nil rfl

/-- every Publish call is immediately followed by its own return (nothing – in particular no settlement – happens
    between the call and its return), and it is the call with the handler's topic and the chain's outputs -/
theorem publish_call_then_ret (c : Cfg) (o : Outcome α) (p : PubOutcome) (i : Nat) (t : String) (ms : List α)
    (h : (handle c o p)[i]? = some (.publishCall t ms)) :
    (handle c o p)[i + 1]? = some (.publishRet (effPub c p)) ∧ t = pubTopic c ∧ o.result = .returns ms false := by
  obtain ⟨j, rfl, _, hj⟩ := publish_pos h rfl
  obtain ⟨outs, hres, hne, hk, _⟩ := mem_published (List.mem_of_getElem? hj)
  have hpub := (published_call hres hne hk p).1
  rw [hpub] at hj
  -- the call is the first of the two publish effects
  rcases j with _ | _ | j <;> simp at hj
  obtain ⟨rfl, rfl⟩ := hj
  refine ⟨?_, rfl, hres⟩
  rw [handle_eq, hpub, ← List.cons_append, List.getElem?_append_right (by simp)]
  simp

/-! ## 6. the settlement the subscriber sees (first-wins, `Wm.Ack`) -/

theorem sentAfter_eq (k : Ack.Kind) (es : List (Effect α)) : sentAfter k es = Ack.firstSettle (settleOps es) :=
  Ack.first_wins k _

/-- a settlement of the chain itself comes first, so it is the one that counts -/
theorem firstSettle_selfOps (s : Option Settle) (rest : List Ack.Op) :
    Ack.firstSettle (selfOps s ++ rest) = match s with | none => Ack.firstSettle rest | some x => x.toSent := by
  rcases s with _ | _ | _ <;> rfl

/-- **the message always ends settled**, and the settle calls never panic (no channel is closed twice),
    whichever way the message object was built -/
theorem always_settled (k : Ack.Kind) (c : Cfg) (o : Outcome α) (p : PubOutcome) :
    sentAfter k (handle c o p) ≠ .none ∧
    Ack.Res.panic ∉ (Ack.run (Ack.initSt k) (settleOps (handle c o p))).2 := by
  refine ⟨?_, Ack.never_panics k _⟩
  rw [sentAfter_eq, settleOps_handle, firstSettle_selfOps]
  rcases o.selfSettle with _ | _ | _
  · cases ending c o p <;> decide
  · exact Ack.Sent.noConfusion
  · exact Ack.Sent.noConfusion

/-- **a settlement the handler made itself is never overridden**: whatever the chain and the publisher do
    afterwards, the subscriber sees the handler's own Ack/Nack (on every kind of message object) -/
theorem self_settlement_wins (k : Ack.Kind) (c : Cfg) (s : Settle) (r : Result α) (p : PubOutcome) :
    sentAfter k (handle c ⟨some s, r⟩ p) = s.toSent := by
  rw [sentAfter_eq, settleOps_handle, firstSettle_selfOps]

/-- without a settlement of its own the subscriber sees what the router decided -/
theorem sentAfter_handle (k : Ack.Kind) (c : Cfg) (r : Result α) (p : PubOutcome) :
    sentAfter k (handle c ⟨none, r⟩ p) = if ending c ⟨none, r⟩ p = .accept then .ack else .nack := by
  rw [sentAfter_eq, settleOps_handle]
  cases ending c ⟨none, r⟩ p <;> rfl

/-- … that is, **Ack iff** the condition of the statement, Nack iff not -/
theorem final_settlement (k : Ack.Kind) (c : Cfg) (r : Result α) (p : PubOutcome) :
    (sentAfter k (handle c ⟨none, r⟩ p) = .ack ↔ AckCond c ⟨none, r⟩ p) ∧
    (sentAfter k (handle c ⟨none, r⟩ p) = .nack ↔ ¬ AckCond c ⟨none, r⟩ p) := by
  rw [sentAfter_handle, ← ending_accept_iff]
  cases ending c ⟨none, r⟩ p <;> simp

/-- the settlement state **at every instant up to and including the end of Publish** is the handler's own
    settlement (none if it made none): the router has not acked (or nacked) the message while Publish runs.
    `take (i+1)` = the effects up to and including the `i`-th. -/
theorem state_inside_publish (k : Ack.Kind) (c : Cfg) (o : Outcome α) (p : PubOutcome) (i : Nat) (e : Effect α)
    (h : (handle c o p)[i]? = some e) (he : e.isPublish = true) :
    sentAfter k ((handle c o p).take (i + 1)) = selfSent o.selfSettle := by
  obtain ⟨j, rfl, hj, _⟩ := publish_pos h he
  -- up to a publish effect: the handler call, the chain's own effects and a part of the publish effects
  have htake : (handle c o p).take ((front o).length + 1 + j + 1) =
      .handlerCalled :: (front o ++ (published c o p).take (j + 1)) := by
    rw [handle_eq, show (front o).length + 1 + j + 1 = ((front o).length + (j + 1)) + 1 by omega, List.take_succ_cons,
      List.take_length_add_append, List.take_append_of_le_length hj]
  rw [sentAfter_eq, htake, ← List.singleton_append, settleOps_append, settleOps_append, settleOps_front,
    settleOps_published]
  rcases o.selfSettle with _ | _ | _ <;> rfl

/-- **a settlement made concurrently by the handler (helper goroutine) and the Router's own never both count**:
    wherever the helper's call lands among the effects, the message ends with exactly the one of the two that came
    first – the helper's if no Router settlement precedes it, else the Router's (which is then what `handle` alone
    gives) – and no channel is closed twice -/
theorem race_first_wins (k : Ack.Kind) (c : Cfg) (r : Result α) (p : PubOutcome) (s : Settle) (i : Nat) :
    (settleOps ((handle c ⟨none, r⟩ p).take i) = [] → sentAfter k (handleRace c r p s i) = s.toSent) ∧
    (settleOps ((handle c ⟨none, r⟩ p).take i) ≠ [] →
        sentAfter k (handleRace c r p s i) = sentAfter k (handle c ⟨none, r⟩ p)) ∧
    Ack.Res.panic ∉ (Ack.run (Ack.initSt k) (settleOps (handleRace c r p s i))).2 ∧
    ¬ ((stateAfter k (handleRace c r p s i)).ackCh = .closed ∧ (stateAfter k (handleRace c r p s i)).nackCh = .closed) := by
  have hfull : settleOps (handle c ⟨none, r⟩ p) = [if ending c ⟨none, r⟩ p = .accept then .ack else .nack] :=
    settleOps_handle c ⟨none, r⟩ p
  have hsplit : settleOps ((handle c ⟨none, r⟩ p).take i) ++ settleOps ((handle c ⟨none, r⟩ p).drop i) =
      [if ending c ⟨none, r⟩ p = .accept then .ack else .nack] := by
    rw [← hfull, ← settleOps_append, List.take_append_drop]
  have hrace : settleOps (handleRace c r p s i) =
      settleOps ((handle c ⟨none, r⟩ p).take i) ++ (selfOps (some s) ++ settleOps ((handle c ⟨none, r⟩ p).drop i)) := by
    rw [handleRace, settleOps_append, settleOps_append, settleOps_selfEff, List.append_assoc]
  refine ⟨?_, ?_, Ack.never_panics k _, (Ack.chan_closed_iff k _).2.2⟩
  · intro h0
    rw [sentAfter_eq, hrace, h0, List.nil_append, firstSettle_selfOps]
  · intro hne
    rw [sentAfter_eq, sentAfter_eq, hrace, hfull]
    -- the router's one settle call lies before the helper's, so it is the first of the race too
    generalize settleOps ((handle c ⟨none, r⟩ p).take i) = a at *
    cases a with
    | nil => exact absurd rfl hne
    | cons x xs =>
      simp only [List.cons_append, List.cons.injEq] at hsplit
      obtain ⟨rfl, _⟩ := hsplit
      cases ending c ⟨none, r⟩ p <;> rfl

/-! ## non-vacuity: concrete instances -/

example : handle ⟨.withPub, "out"⟩ ⟨none, .returns [1, 2, 3] false⟩ .accept =
    [.handlerCalled, .addCtx [1, 2, 3], .publishCall "out" [1, 2, 3], .publishRet .accept, .routerAck, .done] := by decide
example : handle ⟨.withPub, "out"⟩ ⟨some .nack, .returns [7] false⟩ .panic =
    [.handlerCalled, .selfNack, .addCtx [7], .publishCall "out" [7], .publishRet .panic, .recovered, .routerNack, .done] := by decide
example : handle ⟨.disabled, "x"⟩ ⟨none, .returns [100] false⟩ .accept =
    [.handlerCalled, .addCtx [100], .publishCall "" [100], .publishRet .error, .routerNack, .done] := by decide
example : handle ⟨.nilPub, "out"⟩ ⟨none, .returns [1] false⟩ .accept = [.handlerCalled, .addCtx [1], .routerNack, .done] := by decide
example : handle ⟨.withPub, "out"⟩ ⟨some .ack, .returns [1, 2] true⟩ .accept = [.handlerCalled, .selfAck, .routerNack, .done] := by decide
example : AckCond ⟨.withPub, "out"⟩ ⟨none, .returns [1, 2, 3] false⟩ .accept := ⟨_, rfl, Or.inr ⟨rfl, rfl⟩⟩
example : ¬ AckCond ⟨.disabled, ""⟩ ⟨none, .returns [1] false⟩ .accept := by simp [AckCond]
example : sentAfter .new (handle ⟨.withPub, "out"⟩ ⟨some .nack, .returns [1] false⟩ .accept) = .nack := by decide
example : sentAfter .zero (handle ⟨.withPub, "out"⟩ ⟨some .ack, (.panics .nil : Result Nat)⟩ .accept) = .ack := by decide
-- a publisher that refuses any call containing output 0: one call with all outputs, refused, Nack
example : handleWith ⟨.withPub, "t"⟩ ⟨none, .returns [0, 1, 2] false⟩ (fun ms => if ms.contains 0 then .error else .accept) =
    [.handlerCalled, .addCtx [0, 1, 2], .publishCall "t" [0, 1, 2], .publishRet .error, .routerNack, .done] := by decide
-- the helper's Nack lands right after the Router's Ack (index 3) / right before it (index 2)
example : handleRace ⟨.withPub, "t"⟩ (.returns ([] : List Nat) false) .accept .nack 3 =
    [.handlerCalled, .addCtx [], .routerAck, .selfNack, .done] := by decide
example : sentAfter .new (handleRace ⟨.withPub, "t"⟩ (.returns ([] : List Nat) false) .accept .nack 3) = .ack ∧
    sentAfter .new (handleRace ⟨.withPub, "t"⟩ (.returns ([] : List Nat) false) .accept .nack 2) = .nack := by decide
-- the hypotheses of `publish_before_ack` / `publish_before_ack_idx` / `state_inside_publish` are satisfiable:
example : handle ⟨.withPub, "t"⟩ ⟨none, .returns [5] false⟩ .accept =
    [.handlerCalled, .addCtx [5], .publishCall "t" [5], .publishRet .accept] ++ .routerAck :: [.done] := by decide
example : (handle ⟨.withPub, "t"⟩ ⟨some .nack, .returns [5] false⟩ .accept)[3]? = some (.publishCall "t" [5]) := by decide
example : (handle ⟨.withPub, "t"⟩ ⟨some .nack, .returns [5] false⟩ .accept)[4]? = some (.publishRet .accept) ∧
    (handle ⟨.withPub, "t"⟩ ⟨some .nack, .returns [5] false⟩ .accept)[5]? = some .routerAck := by decide

end Wm.Handle
