/-
  C05 – GoChannel: one unsettled message per subscription (M_sub, WmModel/GcSub.lean).
  Theorems over *every* reachable state of the subscription model: any buffer size, any number of
  senders (publications, persistent replays), any consumer behaviour, nacks, context cancel and Pub/Sub
  close at any point, every interleaving.  Helper lemmas: WmModel/Lemmas/GcSub*.lean.
  The blocking-publish clauses live at registry level (M_reg): see Props/C05Reg.lean.
-/
import WmModel.Lemmas.GcSubCopy
namespace Wm.GcSub
open Wm.Lts

theorem reach_ctl (cap : Nat) : ∀ s, Reach (sys cap) s → CtlOk s :=
  inv_of_step (sys cap) CtlOk (ctl_init cap) (fun s a s' h ha => ctl_step s a s' h ha)

theorem reach_uns (cap : Nat) : ∀ s, Reach (sys cap) s → UnsOk s :=
  inv_of_step' (sys cap) UnsOk (uns_init cap)
    (fun s a s' hr h ha => uns_step s a s' (reach_ctl cap s hr) h ha)

theorem reach_copy (cap : Nat) : ∀ s, Reach (sys cap) s → CopyOk s :=
  inv_of_step' (sys cap) CopyOk (copy_init cap) (fun s a s' hr h ha => copy_step s a s' (reach_uns cap s hr) h ha)

/-- **one unsettled message per subscription**: in every reachable state at most one copy that was put into
    the output channel (buffered or already received) is neither acked nor nacked -/
theorem one_unsettled_inv (cap : Nat) (s : St) (h : Reach (sys cap) s) (c₁ c₂ : Nat)
    (h₁ : Unsettled s c₁) (h₂ : Unsettled s c₂) : c₁ = c₂ :=
  (reach_uns cap s h).2.2 c₁ c₂ h₁ h₂

/-- why: the sender that delivered an unsettled copy still holds the sending lock and waits for exactly that
    copy – or the subscription is closing and no sender is past the `closing` check any more -/
theorem unsettled_is_owned (cap : Nat) (s : St) (h : Reach (sys cap) s) (c : Nat) (hu : Unsettled s c) :
    (∃ p, s.holder = .sender p .waitSettle c) ∨
    (s.closing = true ∧ ∀ p pc c', s.holder = .sender p pc c' → pc = .check) :=
  (reach_uns cap s h).2.1 c hu

/-- **the next message becomes receivable only after the previous one was settled**: while some copy is
    unsettled, the step that puts a copy into the output channel is not enabled – for every buffer size -/
theorem no_send_while_unsettled (cap : Nat) (s : St) (h : Reach (sys cap) s) (c : Nat) (hu : Unsettled s c) :
    act s .sSend = none := by
  refine Option.eq_none_iff_forall_ne_some.mpr fun s' hs' => ?_
  obtain ⟨p, c', hsel⟩ := sSend_holder hs'
  rcases unsettled_is_owned cap s h c hu with ⟨_, hh⟩ | ⟨_, hh⟩
  · rw [hsel] at hh; cases hh
  · cases hh p _ c' hsel

/-- the subscription's own close protocol never panics (no close of a closed channel, no send on a closed
    channel) and keeps its flags consistent, in every reachable state -/
theorem never_panics (cap : Nat) (s : St) (h : Reach (sys cap) s) : s.panicked = false :=
  (reach_ctl cap s h).1

theorem close_flags_consistent (cap : Nat) (s : St) (h : Reach (sys cap) s) :
    (s.closed = true → s.closing = true) ∧ (s.chanClosed = s.closed) ∧ (s.closed = true ↔ s.td = .done) := by
  obtain ⟨_, h2, h3, h4, _, _⟩ := reach_ctl cap s h
  refine ⟨fun hc => h2.mpr (by rw [h3.mp hc]; decide), h4, h3⟩

/-- once the subscription is closing the lock holder can always leave without any help from the consumer:
    from every program counter an internal step is enabled (so `subscriber.Close` gets the lock) -/
theorem holder_can_leave_when_closing (cap : Nat) (s : St) (h : Reach (sys cap) s) (hc : s.closing = true)
    (p c : Nat) (pc : SPc) (hh : s.holder = .sender p pc c) :
    ∃ a, (a = .sCheck ∨ a = .sTop ∨ a = .sSendClosing ∨ a = .sObsClosing) ∧ (act s a).isSome = true := by
  cases pc with
  | check => exact ⟨.sCheck, Or.inl rfl, by simp [act, hh, hc]⟩
  | top => exact ⟨.sTop, Or.inr (Or.inl rfl), by simp only [act, hh]; split <;> rfl⟩
  | sendSel => exact ⟨.sSendClosing, Or.inr (Or.inr (Or.inl rfl)), by simp [act, hh, hc]⟩
  | waitSettle => exact ⟨.sObsClosing, Or.inr (Or.inr (Or.inr rfl)), by simp [act, hh, hc]⟩

/-! non-vacuity: a concrete run (buffer 1, two publications) reaches a state with an unsettled received copy
    and a second sender queued; the second sender cannot get the lock, the first cannot send again -/
def demoRun : List Action := [.spawn, .spawn, .sLock 0, .sCheck, .sTop, .sSend, .recv]

example : ∃ s, exec (sys 1) (init 1) demoRun = some s ∧ Unsettled s 0 ∧ s.waiting = [1] ∧
    act s (.sLock 0) = none ∧ act s .sSend = none := by
  refine ⟨_, rfl, ⟨⟨0, true, true, .none⟩, by decide, rfl, rfl⟩, by decide, by decide, by decide⟩

/-- …and after a Nack the same publication is sent again as a fresh copy, after an Ack the next sender runs -/
example : ∃ s, exec (sys 1) (init 1) (demoRun ++ [.settle 0 .nack, .sObsNack, .sTop, .sSend, .recv, .settle 1 .ack,
    .sObsAck, .sLock 0, .sCheck, .sTop, .sSend]) = some s ∧ Unsettled s 2 ∧ s.exits = [(0, .acked)] := by
  refine ⟨_, rfl, ⟨⟨1, true, false, .none⟩, by decide, rfl, rfl⟩, by decide⟩

end Wm.GcSub
