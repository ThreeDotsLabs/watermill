import WmModel.Lemmas.GcDecStep
namespace Wm.GcDec

/-- thread holds `subscribeWgLock` -/
def holdsL : Th → Bool
  | .sub _ .add | .sub _ .unlock | .closer .wait | .closer .unlock => true
  | _ => false

def holder (l : List Th) (j : Nat) : Prop := ∃ th, l[j]? = some th ∧ holdsL th = true

/-- the lock's holder is recorded exactly when a thread is where it holds the lock -/
def LkOk (s : St) : Prop := ∀ j, s.wgLock = some j ↔ holder s.ths j

theorem holder_iff {l : List Th} {j : Nat} {th : Th} (h : l[j]? = some th) : holder l j ↔ holdsL th = true :=
  ⟨fun ⟨th', h', hl⟩ => by rw [h] at h'; cases h'; exact hl, fun hl => ⟨th, h, hl⟩⟩

theorem lk_init : LkOk init := fun _ => ⟨nofun, fun ⟨_, h, _⟩ => (init_no_thread h).elim⟩

theorem lk_congr (s u : St) (h1 : u.ths = s.ths) (h2 : u.wgLock = s.wgLock) (h : LkOk s) : LkOk u := by
  unfold LkOk at *; rw [h1, h2]; exact h

/-- thread `i` moves to `new`: the lock is recorded as `i`'s exactly if `new` holds it, and as before for the others -/
theorem lk_set (s u : St) (i : Nat) (old new : Th) (hold : s.ths[i]? = some old) (hths : u.ths = s.ths.set i new)
    (hi : u.wgLock = some i ↔ holdsL new = true) (hj : ∀ j, j ≠ i → (u.wgLock = some j ↔ s.wgLock = some j))
    (h : LkOk s) : LkOk u := by
  intro j
  rw [hths]
  by_cases hji : j = i
  · subst hji
    rw [hi]
    exact (holder_iff (List.getElem?_set_self (List.getElem?_eq_some_iff.mp hold).1)).symm
  · rw [hj j hji, h j, holder, holder, List.getElem?_set_ne (Ne.symm hji)]

theorem lk_set_keep (s u : St) (i : Nat) (old new : Th) (hold : s.ths[i]? = some old)
    (hths : u.ths = s.ths.set i new) (h2 : u.wgLock = s.wgLock) (hh : holdsL new = holdsL old) (h : LkOk s) : LkOk u :=
  lk_set s u i old new hold hths (by rw [h2, hh, h i]; exact holder_iff hold) (fun j _ => by rw [h2]) h

theorem lk_set_acquire (s u : St) (i : Nat) (old new : Th) (hold : s.ths[i]? = some old) (hfree : s.wgLock = none)
    (hths : u.ths = s.ths.set i new) (h2 : u.wgLock = some i) (hn : holdsL new = true) (h : LkOk s) : LkOk u :=
  lk_set s u i old new hold hths ⟨fun _ => hn, fun _ => h2⟩
    (fun j hne => by rw [h2, hfree]; exact ⟨fun e => absurd (Option.some.inj e).symm hne, nofun⟩) h

theorem lk_set_release (s u : St) (i : Nat) (old new : Th) (hold : s.ths[i]? = some old) (ho : holdsL old = true)
    (hths : u.ths = s.ths.set i new) (h2 : u.wgLock = none) (hn : holdsL new = false) (h : LkOk s) : LkOk u :=
  have hs : s.wgLock = some i := (h i).2 ((holder_iff hold).2 ho)
  lk_set s u i old new hold hths (by rw [h2, hn]; exact ⟨nofun, nofun⟩)
    (fun j hne => by rw [h2, hs]; exact ⟨nofun, fun e => absurd (Option.some.inj e).symm hne⟩) h

theorem lk_append (s u : St) (new : Th) (hn : holdsL new = false) (hths : u.ths = s.ths ++ [new])
    (h2 : u.wgLock = s.wgLock) (h : LkOk s) : LkOk u := by
  intro j
  rw [h2, h j, hths]
  constructor
  · exact fun ⟨th, hth, hl⟩ => ⟨th, append_get_of_get _ _ _ _ hth, hl⟩
  · intro ⟨th, hth, hl⟩
    rcases get_append_cases _ _ _ _ hth with ⟨_, hth'⟩ | ⟨_, rfl⟩
    · exact ⟨th, hth', hl⟩
    · rw [hn] at hl; cases hl

theorem lk_step (s : St) (a : Action) (s' : St) (h : LkOk s) (ha : act s a = some s') : LkOk s' := by
  cases step_of_act ha
  case newSub | newClose => exact lk_append s _ _ rfl rfl rfl h
  case push | inClose | panic => exact lk_congr s _ rfl rfl h
  case spawn i k hth =>
    let mid : St := { s with ths := s.ths.set i (Th.sub k .retOk) }
    exact lk_append mid _ _ rfl rfl rfl (lk_set_keep s mid i _ _ hth rfl rfl rfl h)
  case move hth hm =>
    cases hm
    case subLock hfree | closeLock hfree => exact lk_set_acquire s _ _ _ _ hth hfree rfl rfl rfl h
    case subUnlock | closeUnlock => exact lk_set_release s _ _ _ _ hth rfl rfl rfl rfl h
    all_goals exact lk_set_keep s _ _ _ _ hth rfl rfl rfl h

end Wm.GcDec
