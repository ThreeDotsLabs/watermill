/-
  Termination of `GoChannel.Close` on the registry model M_reg (GcReg.lean) – any number of concurrent Publish,
  Subscribe, Close calls and unsubscribe goroutines, persistent or not, blocking or not, every interleaving:

  * `close_never_stuck`: in every reachable state in which some Close call has not returned, some thread can take a
    step (the closer itself, or a thread it transitively waits for: an unsubscribe goroutine on its way to
    `subscribersWg.Done()`, the writer that one queues behind, a reader that writer drains, the holder of a topic
    mutex that reader wants – a blocking Publish included, because `waitForAckFromSubscribers` gives up on `g.closing`).
  * `thread_steps_bounded`: threads cannot spin – in any run the number of thread steps is bounded by the credits of
    the calls made (6 + 2·batch per Publish, 12 per Subscribe incl. its unsubscribe goroutine, 2 per Close).
  * `after_close_returned`: once any Close call has returned, no unsubscribe goroutine is left, no Subscribe is mid-way,
    every subscription has been removed, the backlog is gone; Publish/Subscribe then fail (`after_close_errors`).
  * `close_terminates`: hence, from any reachable state, *every* schedule that keeps running enabled threads (no
    fairness needed, no further calls needed, no consumer needs to ack) stops after at most `phi s` steps, and where it
    stops every Close call has returned.
  Contrast: without Close the blocking deadlock D11 (`blocking_deadlock_witness`, Props/C05Reg.lean) is a reachable
  state where no thread can move – `close_never_stuck` shows a Close call always dissolves it.
-/
import WmModel.Lemmas.GcRegMov
import WmModel.Lemmas.GcRegMeasure
import WmModel.Props.C07Locks
import WmModel.Props.C11Reg
import WmModel.Lemmas.GcRegDone
import WmModel.Lemmas.GcRegSubLive
import WmModel.Lemmas.GcRegTd
namespace Wm.GcReg
open Wm.Lts

theorem reach_q (cfg : Cfg) : ∀ s, Reach (sys cfg) s → QOk s :=
  inv_of_Step cfg QOk (q_init cfg) (fun _ h hs => q_step h hs)

/-- **Close is never stuck** -/
theorem close_never_stuck (cfg : Cfg) (s : St) (h : Reach (sys cfg) s) (i : Nat) (pc : CPc)
    (hi : s.ths[i]? = some (.closer pc)) (hpc : pc ≠ .ret) : ∃ j, (act s (.step j)).isSome = true :=
  closer_progress (reach_q cfg s h) (reach_rd cfg s h) (reach_tl cfg s h) (reach_w1 cfg s h) (reach_close cfg s h)
    (reach_wg cfg s h) hi hpc

theorem enabled_lt (s : St) (j : Nat) (h : (act s (.step j)).isSome = true) : j < s.ths.length := by
  cases hj : s.ths[j]? with
  | some th => exact (List.getElem?_eq_some_iff.mp hj).1
  | none => simp [act, hj] at h

/-- in a state where no thread can move every Close call has returned -/
theorem quiescent_closed (cfg : Cfg) (s : St) (h : Reach (sys cfg) s) (hq : someThreadEnabled s = false) (i : Nat)
    (pc : CPc) (hi : s.ths[i]? = some (.closer pc)) : pc = .ret := by
  refine Decidable.byContradiction fun hpc => ?_
  obtain ⟨j, hj⟩ := close_never_stuck cfg s h i pc hi hpc
  have : someThreadEnabled s = true := List.any_eq_true.mpr ⟨j, List.mem_range.mpr (enabled_lt s j hj), hj⟩
  rw [hq] at this; cases this

/-- along any run from a reachable state: thread steps ≤ potential at the start + credits of the calls made on the way -/
theorem steps_le_phi (cfg : Cfg) (s : St) (h : Reach (sys cfg) s) (run : List Action) (s' : St)
    (he : exec (sys cfg) s run = some s') :
    (run.filter isStep).length + phi s' ≤ phi s + ((run.filter (fun a => !isStep a)).map credit).sum :=
  steps_bounded_credit_fn (sys cfg) phi isStep credit
    (fun s a s' hr ha hp => by
      cases a <;> cases hp
      exact phi_step (step_of_act ha) (registry_never_panics cfg s' (Reach.step hr ha)))
    (fun s a s' _ ha hp => phi_env (step_of_act ha) hp)
    run s s' h he

/-- **threads cannot spin**: in any run from the initial state, the number of thread steps is at most the sum of the
    credits of the calls made -/
theorem thread_steps_bounded (cfg : Cfg) (run : List Action) (s' : St)
    (he : exec (sys cfg) (init cfg) run = some s') :
    (run.filter isStep).length ≤ ((run.filter (fun a => !isStep a)).map credit).sum := by
  have := steps_le_phi cfg (init cfg) Reach.init run s' he
  have h0 : phi (init cfg) = 0 := rfl
  omega

/-- **Close terminates**: from a reachable state, a run consisting of thread steps only has at most `phi s` steps
    (whatever the scheduler does), and when it cannot be extended every Close call has returned -/
theorem close_terminates (cfg : Cfg) (s : St) (h : Reach (sys cfg) s) (run : List Action) (s' : St)
    (hsteps : ∀ a, a ∈ run → isStep a = true) (he : exec (sys cfg) s run = some s') :
    run.length ≤ phi s ∧
    (someThreadEnabled s' = false → ∀ (i : Nat) (pc : CPc), s'.ths[i]? = some (.closer pc) → pc = .ret) := by
  refine ⟨?_, fun hq i pc hi => quiescent_closed cfg s' (reach_of_exec (sys cfg) h run he) hq i pc hi⟩
  have := steps_le_phi cfg s h run s' he
  have h1 : run.filter isStep = run := List.filter_eq_self.mpr hsteps
  have h2 : run.filter (fun a => !isStep a) = [] := by
    apply List.filter_eq_nil_iff.mpr
    intro a ha; simp [hsteps a ha]
  rw [h1, h2] at this
  simp at this; omega

theorem reach_done (cfg : Cfg) : ∀ s, Reach (sys cfg) s → DoneOk s :=
  inv_of_Step cfg DoneOk (done_init cfg) (fun hr h hs => done_step (reach_close cfg _ hr) h hs)

theorem reach_sublive (cfg : Cfg) : ∀ s, Reach (sys cfg) s → SubLive s :=
  inv_of_Step cfg SubLive (sl_init cfg) (fun hr h hs => sl_step (reach_live cfg _ hr) (reach_aux cfg _ hr) h hs)

/-- **after Close has returned** (any Close call, also a second or concurrent one): the Pub/Sub is closed, the backlog
    is dropped, `subscribersWg` is zero, no unsubscribe goroutine is left and no Subscribe call is mid-way, and every
    subscription has been closed and removed from the registry -/
theorem after_close_returned (cfg : Cfg) (s : St) (h : Reach (sys cfg) s) (i : Nat)
    (hi : s.ths[i]? = some (.closer .ret)) :
    s.closed = true ∧ s.closedLock = none ∧ s.logNil = true ∧ s.wg = 0 ∧
    (∀ (j : Nat) (th : Th), s.ths[j]? = some th → needsDone th = false) ∧ s.subs = [] := by
  have hclosed : s.closed = true := (reach_close cfg s h).1 i _ hi (by decide)
  have hlock : s.closedLock = none := (reach_done cfg s h).2 i hi
  have hnil : s.logNil = true := (reach_done cfg s h).1 hclosed hlock
  have hwg : s.wg = 0 := (reach_live cfg s h).2 hnil
  have hnd : ∀ (j : Nat) (th : Th), s.ths[j]? = some th → needsDone th = false := by
    intro j th hj
    have hz : s.ths.countP needsDone = 0 := Eq.trans (Eq.symm (reach_wg cfg s h)) hwg
    simpa using List.countP_eq_zero.mp hz th (List.mem_of_getElem? hj)
  refine ⟨hclosed, hlock, hnil, hwg, hnd, ?_⟩
  cases hs : s.subs with
  | nil => rfl
  | cons x rest =>
    obtain ⟨sid, t⟩ := x
    obtain ⟨j, pc, hj, hpc⟩ := reach_sublive cfg s h sid t (by rw [hs]; exact List.mem_cons_self)
    have := hnd j _ hj
    cases pc <;> simp [needsDone] at this
    exact absurd rfl hpc

theorem reach_td (cfg : Cfg) : ∀ s, Reach (sys cfg) s → TdOk s :=
  inv_of_Step cfg TdOk (td_init cfg) (fun _ h hs => td_step h hs)

/-- `subs` changes only in Subscribe's register step (grows) and in an unsubscribe goroutine's remove step -/
theorem subs_change (s : St) (a : Action) (s' : St) (ha : act s a = some s') (x : Nat × Nat) (hx : x ∈ s.subs)
    (hnx : x ∉ s'.subs) : ∃ i, a = .step i ∧ s.ths[i]? = some (Th.td x.2 x.1 .remove) := by
  cases step_of_act ha with
  | thread hth hm =>
    cases hm with
    | subRegister => exact absurd (List.mem_append_left _ hx) hnx
    | @tdRemove t sid =>
      refine ⟨_, rfl, ?_⟩
      by_cases he : x = (sid, t)
      · rw [he]; exact hth
      · exact absurd ((List.mem_erase_of_ne he).mpr hx) hnx
    | _ => exact absurd hx hnx
  | _ => exact absurd hx hnx

/-- **cancelling one subscription leaves the others working**: a subscription is taken out of the registry only by its own
    unsubscribe goroutine, and that goroutine gets there only after this subscription's context was cancelled or the
    Pub/Sub is closing – never because some other subscription was cancelled -/
theorem removed_only_after_own_cancel_or_close (cfg : Cfg) (s : St) (h : Reach (sys cfg) s) (a : Action) (s' : St)
    (ha : act s a = some s') (sid t : Nat) (hx : (sid, t) ∈ s.subs) (hnx : (sid, t) ∉ s'.subs) :
    sid ∈ s.cancelled ∨ s.closingSig = true := by
  obtain ⟨i, _, hi⟩ := subs_change s a s' ha (sid, t) hx hnx
  exact reach_td cfg s h i t sid .remove hi (by decide)

/-- non-vacuity: the D11 deadlock state followed by a Close call – the run exists, Close returns, all stuck Publish
    calls return and the pending Subscribe completes -/
theorem close_dissolves_deadlock :
    ∃ s, exec (sys ⟨false, true⟩) (init ⟨false, true⟩)
      (d11Run ++ [.newClose, .step 5, .step 2, .step 2, .step 2, .step 3, .step 3, .step 3,
                  .step 1, .step 1, .step 1, .step 1, .step 1, .step 1,
                  .step 6, .step 6, .step 6, .step 6, .step 6, .step 6, .step 5]) = some s ∧
      s.ths[5]? = some (.closer .ret) ∧ s.ths[2]? = some (.pub 0 [] .retOk none) ∧
      s.ths[3]? = some (.sub 1 1 .retOk) ∧ s.subs = [] ∧ s.wg = 0 := by
  refine ⟨_, rfl, ?_, ?_, ?_, ?_, ?_⟩ <;> decide

end Wm.GcReg
