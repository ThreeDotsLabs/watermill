/-
  C17 – Relay components (Forwarder, FanIn, FanOut, Requeuer) neither lose nor invent.
  Property theorems, with the few lemmas only they use.  Model: `WmModel/Relay.lean`; helper lemmas: `Lemmas/RelayDigits.lean`, `Lemmas/PoisonMeta.lean`.
  All statements quantify over every message (any uuid/payload/metadata, any prior counter string), every
  destination outcome, every configuration flag/topic, and – by induction – every stream of messages with
  destination failures at any positions.
-/
import WmModel.Lemmas.RelayDigits
import WmModel.Lemmas.PoisonMeta
namespace Wm.Relay
open Wm.Poison (Str Meta Msg mset ascii POut Settle lookup_mset)

/-! ### Requeuer -/

/-- **relay_preserves (Requeuer)**: when a destination topic could be computed, exactly one `Publish` goes to it,
    carrying the consumed message (the same object: `o.msg`) with uuid and payload intact and every metadata key
    other than `RetriesKey` unchanged; `RetriesKey` holds `Itoa(counter)`. -/
theorem requeuer_relays (t : Str) (dest : POut) (m : Msg) :
    ∃ m', (requeuer false (.ok t) dest m).pubs = [(t, m')] ∧ (requeuer false (.ok t) dest m).msg = m' ∧
      m'.uuid = m.uuid ∧ m'.payload = m.payload ∧
      List.lookup retriesKey m'.md = some (itoa (nextCounter m)) ∧
      (∀ k, k ≠ retriesKey → List.lookup k m'.md = List.lookup k m.md) :=
  ⟨_, rfl, rfl, rfl, rfl, (lookup_mset ..).trans (if_pos rfl), fun _ hk => (lookup_mset ..).trans (if_neg hk)⟩

/-- the counter read from the message is always a 64-bit value -/
theorem priorCounter_range (m : Msg) : minInt ≤ priorCounter m ∧ priorCounter m ≤ maxInt := by
  unfold priorCounter
  cases h : atoi ((List.lookup retriesKey m.md).getD []) with
  | none => decide
  | some i => exact atoi_range _ i h

/-- **requeuer_counter_partial**: the counter is raised by exactly one – `atoi-or-0(old) + 1` – and what is written
    reads back as that number.
    Full statement (without the guard `priorCounter m < maxInt`) is FALSE for the code: see
    `requeuer_counter_overflow_witness` (known finding D16, pattern `retries=MaxInt64`). -/
theorem requeuer_counter_partial (m : Msg) (h : priorCounter m < maxInt) :
    nextCounter m = priorCounter m + 1 ∧ atoi (itoa (nextCounter m)) = some (priorCounter m + 1) := by
  have hlo : minInt ≤ priorCounter m + 1 := by have := (priorCounter_range m).1; omega
  have hhi : priorCounter m + 1 ≤ maxInt := by omega
  have h1 : nextCounter m = priorCounter m + 1 := wrap64_of_range _ hlo hhi
  exact ⟨h1, h1.symm ▸ atoi_itoa _ hlo hhi⟩

theorem priorCounter_of_lookup (m : Msg) (s : Str) (h : List.lookup retriesKey m.md = some s) :
    priorCounter m = (atoi s).getD 0 := by
  rw [priorCounter, h]; rfl

/-- what "atoi-or-0" means: a counter string that `strconv.Atoi` refuses counts as 0, an absent key likewise -/
theorem priorCounter_cases (m : Msg) :
    (List.lookup retriesKey m.md = none → priorCounter m = 0) ∧
    (∀ s, List.lookup retriesKey m.md = some s → atoi s = none → priorCounter m = 0) ∧
    (∀ s i, List.lookup retriesKey m.md = some s → atoi s = some i → priorCounter m = i) := by
  refine ⟨fun h => ?_, fun s h ha => ?_, fun s i h ha => ?_⟩
  · rw [priorCounter, h]; rfl
  · rw [priorCounter_of_lookup m s h, ha]; rfl
  · rw [priorCounter_of_lookup m s h, ha]; rfl

private def mMax : Msg := ⟨ascii "u", ascii "p", [(retriesKey, ascii "9223372036854775807")]⟩

/-- **witness of D16**: with the prior counter `9223372036854775807` the code writes `-9223372036854775808`,
    which is not the prior counter plus one. -/
theorem requeuer_counter_overflow_witness :
    priorCounter mMax = 9223372036854775807 ∧
    itoa (nextCounter mMax) = ascii "-9223372036854775808" ∧
    nextCounter mMax ≠ priorCounter mMax + 1 := by decide +kernel

/-- repeated requeueing of the same message object (the handler writes into it) -/
def requeueN (t : Str) : Nat → Msg → Msg
  | 0, m => m
  | n + 1, m => (requeuer false (.ok t) .ok (requeueN t n m)).msg

/-- **the counter counts**: a message without a (numeric) counter that is requeued `n` times carries the counter `n` -/
theorem requeuer_counts_up (t : Str) (m : Msg) (h0 : priorCounter m = 0) (n : Nat) (hn : (n : Int) ≤ maxInt) :
    priorCounter (requeueN t n m) = n := by
  induction n with
  | zero => exact h0
  | succ k ih =>
    have hk : priorCounter (requeueN t k m) = k := ih (by omega)
    have hlt : priorCounter (requeueN t k m) < maxInt := by omega
    obtain ⟨_, h2⟩ := requeuer_counter_partial (requeueN t k m) hlt
    obtain ⟨m', _, hmsg, _, _, hl, _⟩ := requeuer_relays t .ok (requeueN t k m)
    rw [requeueN, hmsg, priorCounter_of_lookup m' _ hl, h2, hk]
    rfl

/-- **ack / nack (Requeuer)**: acked iff a topic was computed, the wait was not cancelled and the destination accepted -/
theorem requeuer_settle (w : Bool) (tg : TopicGen) (dest : POut) (m : Msg) :
    (requeuer w tg dest m).settle = .ack ↔ (w = false ∧ (∃ t, tg = .ok t) ∧ dest = .ok) := by
  cases w <;> cases tg <;> simp [requeuer]

/-- nothing is published when no topic could be computed or the wait was cancelled, and then the message is nacked
    with its metadata untouched -/
theorem requeuer_no_topic (w : Bool) (tg : TopicGen) (dest : POut) (m : Msg) (h : w = true ∨ tg = .err) :
    (requeuer w tg dest m).pubs = [] ∧ (requeuer w tg dest m).settle = .nack ∧ (requeuer w tg dest m).msg = m := by
  rcases h with rfl | rfl
  · exact ⟨rfl, rfl, rfl⟩
  · cases w <;> exact ⟨rfl, rfl, rfl⟩

/-- **the topic function is applied to the message as consumed**: whatever `GeneratePublishTopic` computes from the
    message it is shown (in particular from its retries header), the message is published to the topic computed
    from the consumed message – counter not yet raised – while the published message carries the raised counter. -/
theorem requeuer_topic_from_consumed (pol : TopicPolicy) (dest : POut) (m : Msg) (t : Str) (ht : pol m = .ok t) :
    ∃ m', (requeuerP false pol dest m).pubs = [(t, m')] ∧
      List.lookup retriesKey m'.md = some (itoa (nextCounter m)) ∧ m'.uuid = m.uuid ∧ m'.payload = m.payload := by
  obtain ⟨m', h1, _, h3, h4, h5, _⟩ := requeuer_relays t dest m
  exact ⟨m', by rw [requeuerP, ht, h1], h5, h3, h4⟩

/-- a retry budget of `k`: a message that arrives with counter `< k` goes to the work topic (its published counter
    may then equal `k`), one that arrives with counter `≥ k` goes to the dead-letter topic -/
theorem budget_applies_to_consumed (k : Int) (work dead : Str) (dest : POut) (m : Msg) :
    (priorCounter m < k → ∃ m', (requeuerP false (budgetPolicy k work dead) dest m).pubs = [(work, m')]) ∧
    (k ≤ priorCounter m → ∃ m', (requeuerP false (budgetPolicy k work dead) dest m).pubs = [(dead, m')]) := by
  constructor <;> intro h
  · obtain ⟨m', h1, _⟩ := requeuer_topic_from_consumed (budgetPolicy k work dead) dest m work
      (congrArg TopicGen.ok (if_neg (Int.not_le.mpr h)))
    exact ⟨m', h1⟩
  · obtain ⟨m', h1, _⟩ := requeuer_topic_from_consumed (budgetPolicy k work dead) dest m dead
      (congrArg TopicGen.ok (if_pos h))
    exact ⟨m', h1⟩

/-! ### Forwarder -/

theorem settleOf_ack_iff (dest : POut) : settleOf dest = .ack ↔ dest = .ok := by
  unfold settleOf; split <;> simp [*]

theorem valid_iff (p : Parsed) (e : Envelope) : p.valid = some e ↔ (p = .env e ∧ e.dest ≠ []) := by
  rcases p with _ | ⟨⟨_ | _, _, _, _⟩⟩ <;> simp [Parsed.valid] <;> rintro rfl <;> simp

/-- **relay_preserves (Forwarder)**: a valid envelope yields exactly one `Publish`, to the topic embedded in it,
    of a message with the embedded uuid, payload and metadata; acked iff the destination accepted. -/
theorem forwarder_relays (ack : Bool) (p : Parsed) (e : Envelope) (dest : POut) (h : p.valid = some e) :
    (forwarder ack p dest).pubs = [(e.dest, [⟨e.uuid, e.payload, e.md⟩])] ∧
    ((forwarder ack p dest).settle = .ack ↔ dest = .ok) := by
  simp only [forwarder, h]
  exact ⟨rfl, settleOf_ack_iff dest⟩

/-- **invalid_envelope_never_forwarded**: a payload that does not parse, or names no destination, is never
    published anywhere and is acked exactly when `AckWhenCannotUnwrap` is set, whatever the destination would do. -/
theorem invalid_envelope_never_forwarded (ack : Bool) (p : Parsed) (dest : POut) (h : p.valid = none) :
    (forwarder ack p dest).pubs = [] ∧
    (forwarder ack p dest).settle = (if ack then .ack else .nack) := by
  simp only [forwarder, h, and_self]

/-! ### FanIn / FanOut -/

/-- **relay_preserves (FanIn, FanOut)**: the consumed message itself goes to the target topic, once; acked iff accepted -/
theorem passthrough_relays (target : Str) (m : Msg) (dest : POut) :
    (passthrough target m dest).pubs = [(target, [m])] ∧
    ((passthrough target m dest).settle = .ack ↔ dest = .ok) :=
  ⟨rfl, settleOf_ack_iff dest⟩

/-- a FanIn that `Validate` accepts publishes every message of every source topic to the target topic, which is
    non-empty and none of the source topics (no loop) -/
theorem fanin_targets (c : FanInCfg) (hv : c.valid = true) (i : Nat) (m : Msg) (dest : POut) :
    (fanIn c i m dest).pubs = [(c.target, [m])] ∧ c.target ≠ [] ∧ c.target ∉ c.sources ∧ c.sources ≠ [] ∧
    ((fanIn c i m dest).settle = .ack ↔ dest = .ok) := by
  simp only [FanInCfg.valid, Bool.and_eq_true, Bool.not_eq_true', List.isEmpty_eq_false_iff,
    List.contains_eq_mem, decide_eq_false_iff_not] at hv
  obtain ⟨⟨⟨h1, _⟩, h3⟩, h4⟩ := hv
  exact ⟨rfl, h3, h4, h1, settleOf_ack_iff dest⟩

/-- FanOut: every subscriber of the topic obtains the message, nobody obtains anything else -/
theorem fanout_copies (subs : Nat) (m : Msg) :
    (fanOutDeliveries subs m).length = subs ∧ ∀ x ∈ fanOutDeliveries subs m, x = m :=
  ⟨List.length_replicate, fun _ hx => (List.mem_replicate.mp hx).2⟩

/-! ### forwarder.Publisher and end to end -/

theorem wrap_intact (topic : Str) (m : Msg) : (wrap topic m).dest = topic ∧ (wrap topic m).msg = m := ⟨rfl, rfl⟩

/-- the Publisher makes ONE call, on the forwarder topic, with one envelope per message, each naming the topic the
    message was published to and holding the message intact; it reports success iff the wrapped publisher accepted -/
theorem fwdPublish_once (cfg topic : Str) (msgs : List Msg) (dest : POut) (ht : topic ≠ []) :
    (fwdPublish cfg topic msgs dest).calls = [(effTopic cfg, msgs.map (wrap topic))] ∧
    ((fwdPublish cfg topic msgs dest).err = false ↔ dest = .ok) := by
  cases topic with
  | nil => exact absurd rfl ht
  | cons c r => exact ⟨rfl, by simp [fwdPublish]⟩

/-- an empty destination topic is refused before anything is published -/
theorem fwdPublish_refuses_empty_topic (cfg : Str) (msgs : List Msg) (dest : POut) (hm : msgs ≠ []) :
    (fwdPublish cfg [] msgs dest).calls = [] ∧ (fwdPublish cfg [] msgs dest).err = true := by
  cases msgs with
  | nil => exact absurd rfl hm
  | cons m r => exact ⟨rfl, rfl⟩

theorem effTopic_ne_nil (t : Str) : effTopic t ≠ [] ∧ (t ≠ [] → effTopic t = t) := by
  cases t with
  | nil => exact ⟨(by decide +kernel : defaultForwarderTopic ≠ []), fun h => absurd rfl h⟩
  | cons c r => exact ⟨List.cons_ne_nil c r, fun _ => rfl⟩

/-- **forwarder_end_to_end**: a message published through the Publisher to `topic` and consumed by the Forwarder is
    published to exactly `topic` with uuid, payload and metadata intact, and the enveloped message is acked iff the
    destination accepted.  `enc`/`dec` stand for `json.Marshal`/`json.Unmarshal` on the envelope struct; that
    decoding inverts encoding on envelopes whose strings are valid UTF-8 (`hrt`) is the one fact about
    `encoding/json` the statement rests on (tested by the harness on every run, not proved).  Scope: topic, uuid
    and metadata are valid UTF-8 (`hu`; payload bytes are arbitrary) – JSON is the wire contract of the Forwarder. -/
theorem forwarder_end_to_end (enc : Envelope → Str) (dec : Str → Parsed)
    (hrt : ∀ e, e.utf8 = true → dec (enc e) = .env e)
    (cfg topic : Str) (m : Msg) (ack : Bool) (dest : POut) (ht : topic ≠ []) (hu : (wrap topic m).utf8 = true) :
    ∃ e, (fwdPublish cfg topic [m] .ok).calls = [(effTopic cfg, [e])] ∧
      (fwdPublish cfg topic [m] .ok).err = false ∧
      (forwarder ack (dec (enc e)) dest).pubs = [(topic, [m])] ∧
      ((forwarder ack (dec (enc e)) dest).settle = .ack ↔ dest = .ok) := by
  obtain ⟨hc, he⟩ := fwdPublish_once cfg topic [m] .ok ht
  have hv : (dec (enc (wrap topic m))).valid = some (wrap topic m) := by
    rw [hrt _ hu, valid_iff]; exact ⟨rfl, ht⟩
  exact ⟨wrap topic m, hc, he.mpr rfl, forwarder_relays ack _ _ dest hv⟩

/-! ### acknowledge only after the destination accepted; Nack when it fails -/

/-- what every relaying component guarantees for one consumed message -/
def Sound (o : Out) (dest : POut) : Prop :=
  (o.settle = .ack → o.pubs ≠ [] → dest = .ok) ∧ (dest ≠ .ok → o.pubs ≠ [] → o.settle = .nack) ∧ o.pubs.length ≤ 1

theorem sound_nil (s : Settle) (dest : POut) : Sound ⟨[], s⟩ dest :=
  ⟨fun _ h => absurd rfl h, fun _ h => absurd rfl h, Nat.zero_le 1⟩

theorem sound_one (x : Str × List Msg) (dest : POut) : Sound ⟨[x], settleOf dest⟩ dest :=
  ⟨fun h _ => (settleOf_ack_iff dest).mp h, fun h _ => if_neg h, Nat.le_refl 1⟩

/-- **ack_after_destination / nack_on_destination_failure** for Forwarder, FanIn and FanOut handlers -/
theorem ack_after_destination (ack : Bool) (p : Parsed) (target : Str) (c : FanInCfg) (i : Nat) (m : Msg) (dest : POut) :
    Sound (forwarder ack p dest) dest ∧ Sound (passthrough target m dest) dest ∧ Sound (fanIn c i m dest) dest := by
  refine ⟨?_, sound_one _ dest, sound_one _ dest⟩
  unfold forwarder
  cases p.valid with
  | none => exact sound_nil _ dest
  | some e => exact sound_one _ dest

/-- the same for the Requeuer -/
theorem nack_on_destination_failure_requeuer (w : Bool) (tg : TopicGen) (dest : POut) (m : Msg) :
    ((requeuer w tg dest m).settle = .ack → dest = .ok ∧ (requeuer w tg dest m).pubs.length = 1) ∧
    (dest ≠ .ok → (requeuer w tg dest m).settle = .nack) ∧ (requeuer w tg dest m).pubs.length ≤ 1 := by
  cases w <;> cases tg <;> simp [requeuer]

/-- in the order of events of one consumed message the settlement is last: every publish precedes it -/
theorem settle_last (o : Out) (dest : POut) :
    ∃ pre, trace o dest = pre ++ [.settle o.settle] ∧ ∀ ev ∈ pre, ∀ s, ev ≠ .settle s := by
  refine ⟨_, rfl, fun ev hev s => ?_⟩
  obtain ⟨p, _, rfl⟩ := List.mem_map.mp hev
  exact nofun

/-! ### message streams: neither lose nor invent -/

theorem stream_eq_map {α : Type} (f : α → POut → Out) (items : List (α × POut)) :
    stream f items = items.map (fun it => f it.1 it.2) := by
  induction items with
  | nil => rfl
  | cons it rest ih => rw [stream, ih]; rfl

/-- **for every stream, with destination failures at any positions**: what the destination accepted is, in order,
    exactly what was published for the acked messages – for any per-message function that is `Sound`-like:
    an accepted publish is acked, an ack with a publish means it was accepted. -/
theorem stream_accepted_eq_acked {α : Type} (f : α → POut → Out)
    (h1 : ∀ a d, d = .ok → (f a d).settle ≠ .ack → (f a d).pubs = [])
    (h2 : ∀ a d, d ≠ .ok → (f a d).settle = .ack → (f a d).pubs = [])
    (items : List (α × POut)) :
    accepted f items =
      (items.filter (fun it => (f it.1 it.2).settle == .ack)).flatMap (fun it => (f it.1 it.2).pubs) := by
  induction items with
  | nil => rfl
  | cons it rest ih =>
    rcases it with ⟨a, d⟩
    unfold accepted at ih ⊢
    simp only [List.filter_cons]
    by_cases hd : d = .ok
    · subst hd
      by_cases hs : (f a .ok).settle = .ack
      · simp [hs, ih]
      · have := h1 a .ok rfl hs
        simp [hs, ih, this]
    · have hb : (d == POut.ok) = false := by simpa using hd
      by_cases hs : (f a d).settle = .ack
      · have := h2 a d hd hs
        simp [hb, hs, ih, this]
      · simp [hb, hs, ih]

/-- the relays satisfy both hypotheses for one reason: a consumed message is either not published at all, or
    settled by the destination's answer -/
theorem stream_accepted_of_settleOf {α : Type} (f : α → POut → Out)
    (h : ∀ a d, (f a d).pubs = [] ∨ (f a d).settle = settleOf d) (items : List (α × POut)) :
    accepted f items =
      (items.filter (fun it => (f it.1 it.2).settle == .ack)).flatMap (fun it => (f it.1 it.2).pubs) :=
  stream_accepted_eq_acked f
    (fun a d hd hs => (h a d).resolve_right fun he => hs (he.trans ((settleOf_ack_iff d).mpr hd)))
    (fun a d hd hs => (h a d).resolve_right fun he => hd ((settleOf_ack_iff d).mp (he.symm.trans hs))) items

/-- instantiated: Forwarder (any flag, any mix of valid and invalid envelopes) and FanIn/FanOut handlers -/
theorem relay_streams (ack : Bool) (target : Str) :
    (∀ items : List (Parsed × POut), accepted (forwarder ack) items =
      (items.filter (fun it => (forwarder ack it.1 it.2).settle == .ack)).flatMap (fun it => (forwarder ack it.1 it.2).pubs)) ∧
    (∀ items : List (Msg × POut), accepted (passthrough target) items =
      (items.filter (fun it => (passthrough target it.1 it.2).settle == .ack)).flatMap (fun it => (passthrough target it.1 it.2).pubs)) := by
  refine ⟨stream_accepted_of_settleOf _ fun p d => ?_, stream_accepted_of_settleOf _ fun _ _ => .inr rfl⟩
  unfold forwarder
  cases p.valid with
  | none => exact .inl rfl
  | some e => exact .inr rfl

/-- the Requeuer seen as a per-message relay function (input: wait-cancelled flag, topic generator result, message) -/
def rqRelay (a : Bool × TopicGen × Msg) (dest : POut) : Out :=
  ⟨(requeuer a.1 a.2.1 dest a.2.2).pubs.map (fun p => (p.1, [p.2])), (requeuer a.1 a.2.1 dest a.2.2).settle⟩

/-- the same for Requeuer streams (any mix of topic errors, cancelled waits, prior counters and destination failures) -/
theorem requeuer_streams (items : List ((Bool × TopicGen × Msg) × POut)) :
    accepted rqRelay items =
      (items.filter (fun it => (rqRelay it.1 it.2).settle == .ack)).flatMap (fun it => (rqRelay it.1 it.2).pubs) := by
  refine stream_accepted_of_settleOf _ (fun a d => ?_) items
  rcases a with ⟨_ | _, _ | _, m⟩
  · exact .inr rfl
  all_goals exact .inl rfl

/-! ### non-vacuity -/

private def m1 : Msg := ⟨ascii "u1", ascii "data", [(ascii "k", ascii "v"), (retriesKey, ascii "+5")]⟩
private def e1 : Envelope := ⟨ascii "orders", ascii "u1", ascii "data", [(ascii "k", ascii "v")]⟩

example : priorCounter m1 = 5 ∧ priorCounter m1 < maxInt := by decide +kernel
example : (requeuer false (.ok (ascii "retry")) .ok m1).pubs =
    [(ascii "retry", ⟨ascii "u1", ascii "data", [(retriesKey, ascii "6"), (ascii "k", ascii "v")]⟩)] := by decide +kernel
example : (requeuer false (.ok (ascii "retry")) (.fail []) m1).settle = .nack := by decide +kernel
example : priorCounter ⟨[], [], [(retriesKey, ascii " 5")]⟩ = 0 ∧ priorCounter ⟨[], [], [(retriesKey, ascii "x")]⟩ = 0 ∧
    priorCounter ⟨[], [], [(retriesKey, ascii "9223372036854775808")]⟩ = 0 ∧ priorCounter ⟨[], [], []⟩ = 0 :=
  have refused {s : Str} (hs : atoi s = none) : priorCounter ⟨[], [], [(retriesKey, s)]⟩ = 0 :=
    (priorCounter_cases _).2.1 s List.lookup_cons_self hs
  ⟨refused (by decide +kernel), refused (by decide +kernel), refused (by decide +kernel), rfl⟩
example : priorCounter (requeueN (ascii "t") 3 ⟨[], [], []⟩) = 3 := requeuer_counts_up _ _ rfl 3 (by decide)
example : (requeuerP false (budgetPolicy 3 (ascii "work") (ascii "dead")) .ok ⟨[], [], [(retriesKey, ascii "2")]⟩).pubs =
    [(ascii "work", ⟨[], [], [(retriesKey, ascii "3")]⟩)] := by decide +kernel
example : (requeuerP false (metaPolicy retriesKey) .ok ⟨[], [], [(retriesKey, ascii "7")]⟩).pubs =
    [(ascii "7", ⟨[], [], [(retriesKey, ascii "8")]⟩)] := by decide +kernel
example : (Parsed.env e1).valid = some e1 := rfl
example : (forwarder false (.env e1) .ok).pubs = [(ascii "orders", [⟨ascii "u1", ascii "data", [(ascii "k", ascii "v")]⟩])] := by decide +kernel
example : (Parsed.env { e1 with dest := [] }).valid = none ∧ Parsed.bad.valid = none := by decide +kernel
example : (forwarder true .bad (.fail [])).settle = .ack ∧ (forwarder false .bad .ok).settle = .nack := by decide +kernel
example : (FanInCfg.mk [ascii "a", ascii "b"] (ascii "t")).valid = true ∧ (FanInCfg.mk [ascii "a", ascii "t"] (ascii "t")).valid = false := by decide +kernel
example : (wrap (ascii "orders") m1).utf8 = true ∧ validUtf8 [0xE2, 0x82, 0xAC] = true ∧ validUtf8 [0xFF] = false ∧
    validUtf8 [0xED, 0xA0, 0x80] = false ∧ validUtf8 [0xC0, 0x80] = false := by decide +kernel
example : (fwdPublish [] (ascii "orders") [m1] .ok).calls = [(ascii "forwarder_topic", [wrap (ascii "orders") m1])] := rfl
example : accepted rqRelay [((false, .ok (ascii "t"), m1), .ok), ((false, .err, m1), .ok), ((false, .ok (ascii "t"), m1), .fail [])] =
    [(ascii "t", [⟨ascii "u1", ascii "data", [(retriesKey, ascii "6"), (ascii "k", ascii "v")]⟩])] := by decide +kernel
example : accepted (passthrough (ascii "t")) [(m1, .ok), (m1, .fail []), (m1, .ok)] = [(ascii "t", [m1]), (ascii "t", [m1])] := rfl

end Wm.Relay
