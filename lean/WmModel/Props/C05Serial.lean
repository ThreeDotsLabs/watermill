/-
  C05, publisher order – end to end on the composition M_prod = M_reg ∥ M_sub(me) (`me` an arbitrary subscription id).

  "With BlockPublishUntilSubscriberAck … each already-existing subscription receives one publisher's messages in the order they
  were published."  In the model a publisher is a sequence of Publish calls, each a thread of M_reg that runs `sendMessage`
  once per message of its batch; `snd` lists, in the order of these `sendMessage` steps, the senders started for `me`
  (`some d`: started by dispatcher `d` of a Publish call; `none`: started by the persistent replay, which the code starts all
  at once with `go` and for which no order is promised).

  The argument: a later Publish call cannot hold the topic mutex while an earlier one is inside its wait
  (`dispatcher_waited_for`, M_reg), and a dispatcher stops waiting for `me` only when that sender has ended
  (`LinkOk.pending`); so the senders of blocking Publish calls – of the same or of any other publisher – run one after the
  other in `me`'s subscription (`blocking_senders_serialised`), and M_sub's `OrdOk` turns that into the order of the copies
  handed to `me`'s consumer (`blocking_deliveries_in_publish_order`).
-/
import WmModel.Lemmas.GcProdSer
import WmModel.Props.C05Prod
import WmModel.Props.C05Order
import WmModel.Props.C07Close
namespace Wm.GcReg
open Wm Wm.Lts

theorem reach_dw (cfg : Cfg) : ∀ s, Reach (sys cfg) s → DwOk s :=
  inv_of_step' (sys cfg) DwOk (dw_init cfg) (fun s a s' hr h ha => dw_step s a s' (reach_sublive cfg s hr) h ha)

/-- blocking mode, before closing: whoever a dispatcher still waits for is a subscription of the topic whose mutex the waiting
    Publish call holds -/
theorem dispatcher_waited_for (cfg : Cfg) (s : St) (h : Reach (sys cfg) s) (hb : cfg.blocking = true)
    (hc : s.closingSig = false) (d sid : Nat) (hm : sid ∈ (s.disp[d]?.getD [])) :
    ∃ (i t : Nat) (r : List Nat) (ao : Option (Nat × Nat)), s.ths[i]? = some (Th.pub t r (.wait d) ao) ∧
      (t, i) ∈ s.tlocks ∧ ∃ (j : Nat) (pc : TPc), s.ths[j]? = some (Th.td t sid pc) := by
  obtain ⟨i, t, r, ao, hi, j, pc, hj⟩ := reach_dw cfg s h (by rw [cfg_const cfg s h]; exact hb) hc d sid hm
  exact ⟨i, t, r, ao, hi, ((reach_tl cfg s h).1 t i).mpr ⟨_, hi, by simp [holdsT]⟩, j, pc, hj⟩

end Wm.GcReg

namespace Wm.GcProd
open Wm Wm.Lts

theorem reach_ser (me cap : Nat) (cfg : GcReg.Cfg) : ∀ s, Reach (sys me cap cfg) s → SerOk s :=
  inv_of_step' (sys me cap cfg) SerOk (ser_init cfg)
    (fun s a s' hr h ha =>
      have hreg := reach_reg me cap cfg s hr
      ser_step me cap s s' a
        (fun q hq p r hm => ((GcSub.reach_exit cap q (reach_sub me cap cfg s hr q hq)).2.2.2.1 p r hm).1)
        (GcReg.reach_sublive cfg s.reg hreg) (GcReg.reach_rs cfg s.reg hreg) (GcReg.reach_tl cfg s.reg hreg)
        (GcReg.reach_dw cfg s.reg hreg) (reach_link me cap cfg s hr) h ha)

/-- **blocking Publish calls are serialised per subscription**: of two senders started for `me` by `sendMessage` steps (entries
    `a < b` of `snd`, both with a dispatcher), the earlier one has ended – and ended first – by the time the later one exists -/
theorem blocking_senders_serialised (me cap : Nat) (p : Bool) (s : St) (h : Reach (sys me cap ⟨p, true⟩) s)
    (hc : s.reg.closingSig = false) (q : GcSub.St) (hq : s.sub = some q)
    (a b d1 m1 p1 d2 m2 p2 : Nat) (hab : a < b)
    (ha : s.snd[a]? = some (some d1, m1, p1)) (hb : s.snd[b]? = some (some d2, m2, p2)) :
    (∃ r, (p1, r) ∈ q.exits) ∧ ∀ r2, (p2, r2) ∈ q.exits → GcSub.exitedBefore q p1 p2 := by
  have hcfg : s.reg.cfg = ⟨p, true⟩ := GcReg.cfg_const _ s.reg (reach_reg me cap _ s h)
  obtain ⟨k1, k2⟩ := reach_ser me cap _ s h (by rw [hcfg]) hc q hq a b d1 m1 p1 d2 m2 p2 hab ha hb
  exact ⟨(exited_iff q p1).mp k1, k2⟩

/-- **C05, publisher order, end to end**: blocking mode, Pub/Sub not closing: every delivery of the message whose sender was
    started earlier comes before every delivery of the one started later, for every subscription and any two `sendMessage`
    steps of any Publish calls on its topic -/
theorem blocking_deliveries_in_publish_order (me cap : Nat) (p : Bool) (s : St) (h : Reach (sys me cap ⟨p, true⟩) s)
    (hc : s.reg.closingSig = false) (q : GcSub.St) (hq : s.sub = some q)
    (a b d1 m1 p1 d2 m2 p2 : Nat) (hab : a < b)
    (ha : s.snd[a]? = some (some d1, m1, p1)) (hb : s.snd[b]? = some (some d2, m2, p2))
    (i j : Nat) (ci cj : GcSub.Copy) (hi : q.copies[i]? = some ci) (hj : q.copies[j]? = some cj)
    (hpi : ci.pub = p1) (hpj : cj.pub = p2) : i < j := by
  have hqr := reach_sub me cap _ s h q hq
  obtain ⟨⟨r1, k1⟩, k2⟩ := blocking_senders_serialised me cap p s h hc q hq a b d1 m1 p1 d2 m2 p2 hab ha hb
  by_cases hex : ∃ r2, (p2, r2) ∈ q.exits
  · obtain ⟨r2, hr2⟩ := hex
    obtain ⟨a', b', x1, x2, hab', hx, hy⟩ := k2 r2 hr2
    exact GcSub.deliveries_in_exit_order cap q hqr a' b' p1 p2 x1 x2 hab' hx hy i j ci cj hi hj hpi hpj
  · exact GcSub.ended_sender_deliveries_first cap q hqr p1 p2 r1 k1 (fun r' hm => hex ⟨r', hm⟩) i j ci cj hi hj hpi hpj

/-- one subscription, two blocking Publish calls one after the other; the consumer acks the first message, then the second
    sender is started and hands its copy over: both senders are in `snd`, both copies delivered – the hypotheses of the
    theorems above are satisfiable, with a non-trivial conclusion -/
def serialRun : List Action :=
  [.reg (.newSub 0), .reg (.step 0), .reg (.step 0), .reg (.step 0), .reg (.step 0), .reg (.step 0), .reg (.step 0),
   .reg (.newPub 0 [7] none), .reg (.step 2), .reg (.step 2), .reg (.step 2), .reg (.step 2), .reg (.step 2),
   .sub (.sLock 0), .sub .sCheck, .sub .sTop, .sub .sSend, .sub (.settle 0 .ack), .sub .sObsAck,
   .reg (.senderDone 0 0), .reg (.step 2), .reg (.step 2), .reg (.step 2),
   .reg (.newPub 0 [8] none), .reg (.step 3), .reg (.step 3), .reg (.step 3), .reg (.step 3), .reg (.step 3),
   .sub (.sLock 0), .sub .sCheck, .sub .sTop, .sub .sSend]

theorem serial_witness :
    ∃ s q, exec (sys 0 0 ⟨false, true⟩) (init ⟨false, true⟩) serialRun = some s ∧ s.sub = some q ∧
      s.reg.closingSig = false ∧ s.snd = [(some 0, 7, 0), (some 1, 8, 1)] ∧
      q.copies.map (·.pub) = [0, 1] ∧ q.exits = [(0, .acked)] := by
  refine ⟨_, _, rfl, rfl, ?_, ?_, ?_, ?_⟩ <;> decide

end Wm.GcProd
