/-
  The termination measure of the Pipeline model (helper of Props/C01.lean): a Nat that drops on EVERY step.

     μ s = |srcs left| · (3·K^n + 1) + |faults left| · 3·K^n + Σ over tokens of weight(stage, phase)
     weight(st, pending) = 3·K^(n-st), weight(st, handling) = 3·K^(n-st) − 1, weight(st, published) = 1,
     K = 1 + the largest number of subscriptions of one topic.

  A token's weight exceeds the combined weight of everything it can create downstream (K^(n-st) ≥ (K−1)·K^(n-st-1) + K^(n-st-1)),
  a fault pays for putting a token back to `pending` and for the duplicates of a partial publish.
-/
import WmModel.Lemmas.PipelineInv
namespace Wm.Pipeline
open Wm.Lts Wm.Pipeline.ListLemmas

def Shape.K (p : Shape) : Nat := p.deg + 1

def pw (p : Shape) (st : Nat) : Nat := p.K ^ (p.n - st)

def wt (p : Shape) (t : Tok) : Nat :=
  match t.phase with
  | .pending => 3 * pw p t.stage
  | .handling => 3 * pw p t.stage - 1
  | .published => 1

def mu (p : Shape) (s : St) : Nat :=
  s.srcs.length * (3 * pw p 0 + 1) + s.faults.length * (3 * pw p 0) + (s.toks.map (wt p)).sum

theorem pw_pos (p : Shape) (st : Nat) : 1 ≤ pw p st :=
  Nat.pow_pos (Nat.succ_pos _)

theorem pw_anti (p : Shape) {st st' : Nat} (h : st ≤ st') : pw p st' ≤ pw p st :=
  Nat.pow_le_pow_right (Nat.succ_pos _) (Nat.sub_le_sub_left h _)

theorem pw_succ (p : Shape) {st : Nat} (hst : st < p.n) : pw p st = p.deg * pw p (st + 1) + pw p (st + 1) := by
  have hn : p.n - st = p.n - (st + 1) + 1 := (Nat.succ_pred_eq_of_pos (Nat.sub_pos_of_lt hst)).symm
  unfold pw Shape.K
  rw [hn, Nat.pow_succ, Nat.mul_add, Nat.mul_one, Nat.mul_comm]

theorem next_length_le (p : Shape) (st : Nat) : (p.next st).length ≤ p.deg :=
  getD_length_le_foldr_max p.succ st

/-- delivery costs a token one unit of weight -/
theorem wt_pending (p : Shape) (l st : Nat) : wt p ⟨l, st, .pending⟩ = wt p ⟨l, st, .handling⟩ + 1 :=
  (Nat.sub_add_cancel (Nat.mul_pos (by decide) (pw_pos p st))).symm

/-- a pending token weighs at most `3 · pw` of any stage before its own; `3 · pw 0` is what a removed fault (or, with
    one to spare, a published source message) pays -/
theorem wt_pending_le (p : Shape) (l : Nat) {st st' : Nat} (h : st ≤ st') : wt p ⟨l, st', .pending⟩ ≤ 3 * pw p st :=
  Nat.mul_le_mul_left 3 (pw_anti p h)

/-- a token in `handling` outweighs what `publishOk` makes of it – itself `published` (weight 1) and the copies for the
    output topic: each of the at most `deg = K - 1` copies sits at a later stage, so weighs at most `3 · pw (st + 1)`,
    and `pw st = K · pw (st + 1)` -/
theorem spawn_weight (p : Shape) (hw : p.WF) (l st : Nat) (hst : st < p.n) :
    1 + ((spawn p l st).map (wt p)).sum < wt p ⟨l, st, .handling⟩ := by
  have hb : ∀ x, x ∈ spawn p l st → wt p x ≤ 3 * pw p (st + 1) := by
    intro x hx
    obtain ⟨t, ht, rfl⟩ := List.mem_map.1 hx
    exact wt_pending_le p l ((hw st hst).2 t ht).1
  have h1 := sum_le_length_mul (spawn p l st) (wt p) _ hb
  have h2 : (spawn p l st).length * (3 * pw p (st + 1)) ≤ p.deg * (3 * pw p (st + 1)) :=
    Nat.mul_le_mul_right _ (by rw [spawn, List.length_map]; exact next_length_le p st)
  have h3 : p.deg * (3 * pw p (st + 1)) = 3 * (p.deg * pw p (st + 1)) := Nat.mul_left_comm ..
  have := pw_succ p hst
  have := pw_pos p (st + 1)
  refine Nat.lt_sub_of_add_lt (c := 3 * pw p st) ?_
  omega

theorem mu_step (p : Shape) (hw : p.WF) (srcs0 : List Nat) (s : St) (a : Action) (s' : St) (g : Good p srcs0 s)
    (h : act p s a = some s') : mu p s' < mu p s := by
  cases step_iff.1 h with
  | @publishSource k l hk =>
    have := length_mul_eraseIdx hk (3 * pw p 0 + 1)
    have := wt_pending_le p l (Nat.le_refl 0)
    simp only [mu, List.map_append, List.sum_append, List.map_cons, List.map_nil, List.sum_cons, List.sum_nil]
    omega
  | @deliver i l st hi _ =>
    have := sum_set_append_lt hi ⟨l, st, .handling⟩ [] (wt p) (c := 0) (wt_pending p l st ▸ Nat.lt_succ_self _)
    rw [List.append_nil] at this
    exact Nat.add_lt_add_left this _
  | @fault i k l st f hi hk _ =>
    -- the fault pays for the way back to `pending`; what the token weighed covers the copies of a partial publish
    have he : ((if f.kind = .pubErrAfterPartial then spawn p l st else []).map (wt p)).sum
        ≤ 1 + ((spawn p l st).map (wt p)).sum := by
      split
      · exact Nat.le_add_left _ 1
      · exact Nat.zero_le _
    have hW := sum_set_append_lt hi ⟨l, st, .pending⟩ _ (wt p) (c := 3 * pw p 0) (by
      rw [Nat.add_comm]
      exact Nat.add_lt_add_of_lt_of_le (Nat.lt_of_le_of_lt he (spawn_weight p hw l st (g.handling_lt hi)))
        (wt_pending_le p l (Nat.zero_le st)))
    have hF := length_mul_eraseIdx hk (3 * pw p 0)
    simp only [mu, hF]
    omega
  | @publishOk i l st hi =>
    exact Nat.add_lt_add_left (sum_set_append_lt hi ⟨l, st, .published⟩ _ (wt p) (c := 0)
      (spawn_weight p hw l st (g.handling_lt hi))) _
  | ack hi => exact Nat.add_lt_add_left (sum_eraseIdx_lt hi (wt p) Nat.one_pos) _
  | @sink i l st hi _ => exact Nat.add_lt_add_left (sum_eraseIdx_lt hi (wt p) (wt_pending p l st ▸ Nat.succ_pos _)) _

end Wm.Pipeline
