/-
  C17 – generated ties: the bodies of `(*Requeuer).handler`, `(*Forwarder).forwardMessage` and
  `unwrapMessageFromEnvelope`, extracted from the current Go source and interpreted (with the Router's settle rule
  applied), equal the hand-written models for every input.  `WmModel/Gen/RelayBody.lean` is rewritten by the
  extractor on every run.
  Proofs split the input where the interpreter consults it; then both sides compute: `rfl` after a split into
  constructors, `simp` with the interpreter's equations where the case is a hypothesis about an opaque test.
-/
import WmModel.GoRelay
import WmModel.Gen.RelayBody
namespace Wm.GoRelay
open Wm.Poison (Str Meta Msg mset ascii POut Settle)
open Wm.Relay

/-- `retries, err := strconv.Atoi(s); if err != nil { retries = 0 }` is the model's "atoi or 0" -/
theorem atoiGo_or_zero (s : Str) : (if (atoiGo s).2 = true then 0 else (atoiGo s).1) = (Relay.atoi s).getD 0 := by
  unfold atoiGo
  cases Relay.atoi s with
  | some i => rfl
  | none => simp only []; split <;> rfl

theorem retriesKey_eq : ascii "_watermill_requeuer_retries" = retriesKey := rfl

/-- for EVERY topic function `pol` (also those that read the retries header of the message they are shown): the
    extracted handler shows it the message as consumed and publishes to the topic it computed from that -/
theorem extracted_requeuer_eq_model (w : Bool) (pol : TopicPolicy) (dest : POut) (m : Msg) :
    rqRun ⟨w, pol, dest⟩ Gen.requeuerBody m = some (requeuerP w pol dest m) := by
  unfold requeuerP
  cases w with
  | true => rfl
  | false =>
    cases hp : pol m with
    | err => simp [rqRun, Gen.requeuerBody, rqExec, rqExec1, requeuer, hp]
    | ok t =>
      have hn : nextCounter m = wrap64 ((if (atoiGo ((List.lookup retriesKey m.md).getD [])).2 = true then 0
          else (atoiGo ((List.lookup retriesKey m.md).getD [])).1) + 1) := by rw [atoiGo_or_zero]; rfl
      -- the run depends on two more tests only: did `Atoi` fail, did the destination accept
      cases he : (atoiGo ((List.lookup retriesKey m.md).getD [])).2 <;> by_cases hd : dest = .ok <;>
        simp [rqRun, Gen.requeuerBody, rqExec, rqExec1, requeuer, retriesKey_eq, hp, he, hn, hd]

theorem extracted_unwrap_eq_model (p : Parsed) :
    uwRun Gen.unwrapBody p = some (p.valid.map (fun e => (e.dest, e.msg))) := by
  rcases p with _ | ⟨⟨_ | _, _, _, _⟩⟩ <;> rfl

theorem extracted_forward_eq_model (ack : Bool) (p : Parsed) (dest : POut) :
    fwRun Gen.forwardBody Gen.unwrapBody ack p dest = some (forwarder ack p dest) := by
  simp only [fwRun, extracted_unwrap_eq_model, forwarder]
  cases p.valid with
  | none => cases ack <;> rfl
  | some e => cases dest <;> rfl

end Wm.GoRelay
