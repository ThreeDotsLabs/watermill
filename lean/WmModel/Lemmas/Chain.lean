/-
  What the functions of `WmModel/Chain.lean` compute: the three loops as folds, the recording middlewares and
  decorators, `loadPlugins` field by field, and what one operation of a registration program does to a handler that
  is already started.  Property theorems: `Props/C09.lean`.
-/
import WmModel.Chain
namespace Wm.Chain

theorem loopDown_take (fs : List (α → α)) (i : Nat) (hi : i ≤ fs.length) (acc : α) :
    loopDown fs i acc = (fs.take i).foldr (fun f a => f a) acc := by
  induction i generalizing acc with
  | zero => rfl
  | succ i ih =>
    have hget : fs[i]? = some fs[i] := List.getElem?_eq_getElem hi
    simp only [loopDown, hget]
    rw [ih (Nat.le_of_succ_le hi), List.take_add_one, hget, List.foldr_append]
    rfl

/-- the wrap loop is the plain countdown loop over the middlewares, one that does not apply acting as the identity -/
theorem wrapLoop_eq_loopDown (name : String) (mws : List (Mw α)) (i : Nat) (acc : α) :
    wrapLoop name mws i acc = loopDown (mws.map fun m a => if applies name m then m.fn a else a) i acc := by
  induction i generalizing acc with
  | zero => rfl
  | succ i ih =>
    rw [wrapLoop, loopDown, List.getElem?_map]
    cases mws[i]? <;> exact ih _

theorem loopUp_eq_foldl (fs : List (α → α)) (acc : α) :
    loopUp fs acc = fs.foldl (fun a f => f a) acc := by
  induction fs generalizing acc with
  | nil => rfl
  | cons f rest ih => exact ih (f acc)

theorem foldr_recMw (ids : List Nat) (h : HF) :
    ids.foldr (fun i a => recMw i a) h = ids.map Ev.enter ++ h ++ ids.reverse.map Ev.leave := by
  induction ids with
  | nil => simp
  | cons i rest ih =>
    simp only [List.foldr_cons]
    rw [ih]
    simp [recMw]

theorem loopUp_recSub (sd : List Nat) (evs : List Ev) (c : Bool) :
    loopUp (sd.map recSub) (evs, c) = (evs ++ sd.map (fun i => Ev.sub i c), c) := by
  induction sd generalizing evs with
  | nil => simp [loopUp]
  | cons i rest ih => simp [loopUp, recSub, ih]

theorem R3.app_assoc (a b c : R3) : (a.app b).app c = a.app (b.app c) := by
  simp [R3.app, List.append_assoc]
theorem R3.app_nil (a : R3) : a.app {} = a := by simp [R3.app]
theorem R3.nil_app (a : R3) : R3.app {} a = a := by simp [R3.app]

/-- `loadPlugins` writes the three registration lists and `ran`, nothing else -/
theorem loadPlugins_r3 (s : St) : (loadPlugins s).r3 = s.r3.app (if s.ran then {} else pluginR3 s.plugins) := by
  unfold loadPlugins
  split
  · exact (R3.app_nil _).symm
  · rfl

theorem loadPlugins_ran (s : St) : (loadPlugins s).ran = true := by
  unfold loadPlugins; split <;> trivial

theorem loadPlugins_plugins (s : St) : (loadPlugins s).plugins = s.plugins := by
  unfold loadPlugins; split <;> rfl

theorem loadPlugins_hs (s : St) : (loadPlugins s).hs = s.hs := by
  unfold loadPlugins; split <;> rfl

theorem loadPlugins_obs (s : St) : (loadPlugins s).obs = s.obs := by
  unfold loadPlugins; split <;> rfl

theorem exec_cons (s : St) (o : Op) (rest : List Op) : exec s (o :: rest) = (step s o).bind (exec · rest) := by
  rw [exec]; cases step s o <;> rfl

theorem exec_cons_some {s s' : St} {o : Op} {rest : List Op} (h : exec s (o :: rest) = some s') :
    ∃ s2, step s o = some s2 ∧ exec s2 rest = some s' :=
  Option.bind_eq_some_iff.mp (exec_cons s o rest ▸ h)

theorem mem_block {hs : List HSt} {x : HSt} {t : List Ev} (hx : x ∈ hs) (ht : x.trace = some t) :
    (x.name, t) ∈ block hs :=
  List.mem_filterMap.mpr ⟨x, hx, by rw [ht]; rfl⟩

/-- `if h.started { continue }` -/
theorem startH_of_started (s : St) {x : HSt} {t : List Ev} (ht : x.trace = some t) : startH s x = x := by
  unfold startH; rw [ht]

/-- One operation and a started handler `x`: unless the operation stops `x` itself, `x` stays as it is, and what the
    operation observes – a block of the handlers as `run` leaves them, nothing otherwise – reports `x`'s trace. -/
theorem step_frozen {s s' : St} {o : Op} (h : step s o = some s') {x : HSt} (hx : x ∈ s.hs) {t : List Ev}
    (ht : x.trace = some t) (hno : o ≠ .stopHandler x.name) :
    x ∈ s'.hs ∧ ∃ ex, s'.obs = s.obs ++ ex ∧ ∀ b ∈ ex, (x.name, t) ∈ b := by
  have quiet {hs' : List HSt} (hx' : x ∈ hs') : x ∈ hs' ∧ ∃ ex, s.obs = s.obs ++ ex ∧ ∀ b ∈ ex, (x.name, t) ∈ b :=
    ⟨hx', [], (List.append_nil _).symm, List.forall_mem_nil _⟩
  cases o <;> simp only [step] at h
  case run =>
    cases h
    have hx' := List.mem_map.mpr ⟨x, loadPlugins_hs s ▸ hx, startH_of_started (loadPlugins s) ht⟩
    exact ⟨hx', [_], congrArg (· ++ _) (loadPlugins_obs s), List.forall_mem_singleton.mpr (mem_block hx' ht)⟩
  case addHandler g p a => split at h <;> cases h; exact quiet (List.mem_append_left _ hx)
  case stopHandler g =>
    split at h <;> cases h
    exact quiet (List.mem_filter.mpr ⟨hx, by simpa using fun e => hno (by rw [e])⟩)
  -- the other operations leave `hs` alone
  all_goals (try split at h) <;> cases h <;> exact quiet hx

end Wm.Chain
