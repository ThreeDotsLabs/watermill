/-
  End-to-end theorems on the composition M_prod = M_reg ∥ M_sub(me) (GcProd.lean), `me` an arbitrary subscription id –
  so each statement holds for every subscription.  The composition lemma (`Lemmas/GcProdProj.lean`) shows that every step
  of the product is a step of M_reg and a finite run of M_sub, hence every theorem about either model holds in the
  product; `LinkOk` (`Lemmas/GcProdLink.lean`) ties the two: the senders M_reg starts for `me` are the publications
  0,1,2,… of its M_sub instance, carry M_reg's messages in order, and a dispatcher stops waiting for `me` only after
  that sender ended in M_sub.  From these: a blocking Publish returns only after the Ack (C05), and in persistent mode
  the publications of a subscription are the topic's log, each delivered exactly once if every sender ended acked (C11/C04).
-/
import WmModel.Lemmas.GcProdLink
import WmModel.Props.C04Exit
namespace Wm.GcProd
open Wm Wm.Lts

theorem reach_link (me cap : Nat) (cfg : GcReg.Cfg) : ∀ s, Reach (sys me cap cfg) s → LinkOk me s :=
  inv_of_step' (sys me cap cfg) (LinkOk me) (link_init me cfg)
    (fun s a s' hr h ha => link_step me cap cfg s s' a (reach_reg me cap cfg s hr) h ha)

theorem exited_iff (q : GcSub.St) (p : Nat) : exited q p = true ↔ ∃ r, (p, r) ∈ q.exits := by
  simp only [exited, List.any_eq_true, beq_iff_eq]
  constructor
  · rintro ⟨⟨p', r⟩, hm, he⟩; simp at he; subst he; exact ⟨r, hm⟩
  · rintro ⟨r, hm⟩; exact ⟨(p, r), hm, rfl⟩

/-- **C05, end to end**: a blocking Publish proceeds past the wait for dispatcher `d` (Pub/Sub not closing) only after the
    sender it started for `me` has ended: `me` acked a delivery of it, or `me` is closing / closed -/
theorem blocking_publish_returns_only_after_ack (me cap : Nat) (cfg : GcReg.Cfg) (s s' : St)
    (h : Reach (sys me cap cfg) s) (i t d : Nat) (rest : List Nat) (ao : Option (Nat × Nat))
    (hth : s.reg.ths[i]? = some (.pub t rest (.wait d) ao)) (hact : act me cap s (.reg (.step i)) = some s')
    (hnc : s.reg.closingSig = false) (m p : Nat) (hm : (some d, m, p) ∈ s.snd) :
    ∃ q, s.sub = some q ∧
      ((∃ (c : Nat) (cp : GcSub.Copy), q.copies[c]? = some cp ∧ cp.pub = p ∧ cp.delivered = true ∧ cp.received = true ∧ cp.settle = .ack)
        ∨ q.closing = true ∨ q.closed = true) := by
  have hl := reach_link me cap cfg s h
  -- the M_reg step
  have hreg : GcReg.stepPub s.reg i t rest (.wait d) ao = some s'.reg := by
    obtain ⟨r', x', hr, _, rfl⟩ := act_reg hact
    simp only [GcReg.act, hth] at hr; exact hr
  have hempty : (s.reg.disp[d]?.getD []) = [] := by
    rcases GcReg.blocking_publish_waits s.reg s'.reg i t d rest ao hreg with h1 | h1
    · exact h1
    · rw [hnc] at h1; cases h1
  cases hq : s.sub with
  | none => have := hl.empty hq; rw [this] at hm; cases hm
  | some q =>
    refine ⟨q, rfl, ?_⟩
    have hsubreach := reach_sub me cap cfg s h q hq
    rcases hl.pending q hq d m p hm with h1 | h1
    · rw [hempty] at h1; cases h1
    · obtain ⟨r, hr⟩ := (exited_iff q p).mp h1
      cases r with
      | acked => exact Or.inl (GcSub.acked_exit_means_delivered_and_acked cap q hsubreach p hr)
      | closing => exact Or.inr (Or.inl ((GcSub.reach_exit cap q hsubreach).2.1 p hr))
      | closed => exact Or.inr (Or.inr ((GcSub.reach_exit cap q hsubreach).2.2.1 p hr))

/-- **C11/C04, end to end**: the publications of `me`'s subscription are the persisted messages of its topic, in order -/
theorem publications_are_the_log (me cap : Nat) (b : Bool) (s : St) (h : Reach (sys me cap ⟨true, b⟩) s) (t : Nat)
    (hreg : (me, t) ∈ s.reg.subs)
    (hquiet : ∀ (i : Nat) (r : List Nat) (pc : GcReg.PPc) (ao : Option (Nat × Nat)),
      s.reg.ths[i]? = some (.pub t r pc ao) → GcReg.afterPersist pc = false) :
    ∃ q, s.sub = some q ∧ s.snd.map (·.2.1) = GcReg.logOf s.reg t ∧ s.snd.map (·.2.2) = List.range q.nextPub ∧
      q.nextPub = (GcReg.logOf s.reg t).length := by
  have hl := reach_link me cap _ s h
  have hr := reach_reg me cap _ s h
  have hlt : me < s.reg.nextSid := (GcReg.reach_aux _ s.reg hr).1 me t hreg
  cases hq : s.sub with
  | none => have := hl.created.mpr hlt; rw [hq] at this; cases this
  | some q =>
    have h1 : s.snd.map (·.2.1) = GcReg.logOf s.reg t := by
      rw [hl.msgs]; exact GcReg.registry_exactly_one_sender b s.reg hr me t hreg hquiet
    have h2 := hl.pubs q hq
    refine ⟨q, rfl, h1, h2, ?_⟩
    rw [← List.length_range (n := q.nextPub), ← h2, List.length_map, ← h1, List.length_map]

/-- **C11, end to end – exactly once**: if in addition every sender started for `me` has ended "acked", then every
    position `k` of the topic's log has exactly one acked delivery (of publication `k`, which carries message `log[k]`), that
    delivery was handed to and received by the consumer, and every other delivery of publication `k` was nacked -/
theorem exactly_once_when_all_acked (me cap : Nat) (b : Bool) (s : St) (h : Reach (sys me cap ⟨true, b⟩) s) (t : Nat)
    (hreg : (me, t) ∈ s.reg.subs)
    (hquiet : ∀ (i : Nat) (r : List Nat) (pc : GcReg.PPc) (ao : Option (Nat × Nat)),
      s.reg.ths[i]? = some (.pub t r pc ao) → GcReg.afterPersist pc = false)
    (q : GcSub.St) (hq : s.sub = some q) (hall : ∀ p, p < q.nextPub → (p, GcSub.Exit.acked) ∈ q.exits)
    (k : Nat) (hk : k < (GcReg.logOf s.reg t).length) :
    (∃ od, s.snd[k]? = some (od, (GcReg.logOf s.reg t)[k], k)) ∧
    (∃ (c : Nat) (cp : GcSub.Copy), q.copies[c]? = some cp ∧ cp.pub = k ∧ cp.delivered = true ∧ cp.received = true ∧
        cp.settle = .ack ∧
        ∀ (c' : Nat) (cp' : GcSub.Copy), q.copies[c']? = some cp' → cp'.pub = k → c' ≠ c → cp'.settle = .nack) := by
  obtain ⟨q0, hq0, hmsgs, hpubs, hlen⟩ := publications_are_the_log me cap b s h t hreg hquiet
  rw [hq] at hq0; injection hq0 with hq0; subst hq0
  have hsubreach := reach_sub me cap _ s h q hq
  have hkq : k < q.nextPub := hlen ▸ hk
  refine ⟨?_, ?_⟩
  · -- the k-th sender entry: its message is read off `hmsgs`, its publication off `hpubs`
    have hks : k < s.snd.length := by
      rw [← List.length_map (f := fun e => e.2.1), hmsgs]; exact hk
    have e1 : s.snd[k].2.1 = (GcReg.logOf s.reg t)[k] :=
      (List.getElem_map (fun e : Option Nat × Nat × Nat => e.2.1)).symm.trans
        (List.getElem_of_eq hmsgs (by rw [List.length_map]; exact hks))
    have e2 : s.snd[k].2.2 = k :=
      (List.getElem_map (fun e : Option Nat × Nat × Nat => e.2.2)).symm.trans
        ((List.getElem_of_eq hpubs (by rw [List.length_map]; exact hks)).trans (List.getElem_range _))
    exact ⟨s.snd[k].1, (List.getElem?_eq_getElem hks).trans (congrArg some (Prod.ext rfl (Prod.ext e1 e2)))⟩
  · obtain ⟨c, cp, hc, hp, hd, hrv, hack⟩ := GcSub.acked_exit_means_delivered_and_acked cap q hsubreach k (hall k hkq)
    refine ⟨c, cp, hc, hp, hd, hrv, hack, ?_⟩
    intro c' cp' hc' hp' hne
    rcases Nat.lt_or_gt_of_ne hne with hlt | hgt
    · exact GcSub.redelivery_only_after_nack cap q hsubreach c' c cp' cp hlt hc' hc (by rw [hp', hp])
    · -- a later copy of the same publication would mean the acked one was nacked
      have := GcSub.redelivery_only_after_nack cap q hsubreach c c' cp cp' hgt hc hc' (by rw [hp', hp])
      rw [hack] at this; cases this

/-- non-vacuity: subscription 0 is created and registered, a Publish persists and sends message 7, M_sub delivers it
    (rendezvous), the consumer acks, the sender ends, the dispatcher is told – all hypotheses of `exactly_once_when_all_acked` hold;
    and `senderDone 0 0` is refused while the sender has not ended in M_sub -/
def prodRun : List Action :=
  [.reg (.newSub 0), .reg (.step 0), .reg (.step 0), .reg (.step 0), .reg (.step 0), .reg (.step 0), .reg (.step 0),
   .reg (.newPub 0 [7] none), .reg (.step 2), .reg (.step 2), .reg (.step 2), .reg (.step 2), .reg (.step 2), .reg (.step 2),
   .reg (.step 2),
   .sub (.sLock 0), .sub .sCheck, .sub .sTop, .sub .sSend, .sub (.settle 0 .ack), .sub .sObsAck,
   .reg (.senderDone 0 0)]

theorem prod_witness :
    ∃ s q, exec (sys 0 0 ⟨true, false⟩) (init ⟨true, false⟩) prodRun = some s ∧ s.sub = some q ∧
      s.reg.subs = [(0, 0)] ∧ GcReg.logOf s.reg 0 = [7] ∧ s.snd = [(some 0, 7, 0)] ∧ q.exits = [(0, .acked)] ∧
      q.nextPub = 1 ∧ s.reg.disp = [[]] ∧
      s.reg.ths.all (fun th => match th with | .pub _ _ pc _ => !GcReg.afterPersist pc | _ => true) = true := by
  refine ⟨_, _, rfl, rfl, ?_, ?_, ?_, ?_, ?_, ?_, ?_⟩ <;> decide

theorem prod_sender_done_waits_for_msub :
    ∃ s, exec (sys 0 0 ⟨true, false⟩) (init ⟨true, false⟩) (prodRun.take 15) = some s ∧
      act 0 0 s (.reg (.senderDone 0 0)) = none ∧ (GcReg.act s.reg (.senderDone 0 0)).isSome = true := by
  refine ⟨_, rfl, ?_, ?_⟩ <;> decide

end Wm.GcProd
