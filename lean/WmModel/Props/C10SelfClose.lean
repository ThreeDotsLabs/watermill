/-
  C10 – "when the last handler ends or the Run context is cancelled the router closes itself and Run returns nil", as a
  progress theorem over every reachable state of the repaired model: no fairness about handlers, subscribers or callers.
-/
import WmModel.Props.C06
import WmModel.Lemmas.RouterLifeWatch
namespace Wm.RouterLife
open Wm.Lts

/-- some step of the router itself (not of a caller, subscriber, handler function or timer) is enabled -/
def InternalEnabled (s : St) : Prop := ∃ a : Action, a.isEnv = false ∧ (act allFixed s a).isSome = true

/-- the performing Close, once every loop has ended and no invocation is in flight, gets through its two waits and returns -/
theorem performer_internal (s : St) (h : Reach (sys allFixed) s) (k : Nat) (hk : s.closers[k]? = some CPc.waiting)
    (hl : loopsEnded s = true) (hq : noneInFlight s = true) : InternalEnabled s := by
  obtain ⟨hc, _, _, _⟩ := (reach_ctl allFixed s h).k1 k hk
  cases hA : s.wA with
  | false => exact ⟨.wLoops, rfl, (Step.wLoops hc hA hl).enabled⟩
  | true =>
    cases hB : s.wB with
    | idle => exact ⟨.wLock, rfl, (Step.wLock hc hB fun _ => hA).enabled⟩
    | held => exact ⟨.wRunning, rfl, (Step.wRunning hB hq).enabled⟩
    | done => exact ⟨.closeDone k, rfl, (Step.closeDone hk hA hB).enabled⟩

theorem holder_internal (s : St) (h : Reach (sys allFixed) s) (j : Nat) (hcl : s.cl = some j)
    (hl : loopsEnded s = true) (hq : noneInFlight s = true) : InternalEnabled s := by
  have hctl := reach_ctl allFixed s h
  rcases hctl.k3 j hcl with hj | hj
  · cases hhl : s.hl with
    | free => exact ⟨.closeHL j, rfl, closeHL_enabled hj hhl⟩
    | closer j' => exact performer_internal s h j' (hctl.k4 j' hhl) hl hq
    | rh v c => let ⟨a, _, h2, h3⟩ := runhandlers_progress allFixed s h v c hhl; exact ⟨a, h2, h3⟩
  · exact performer_internal s h j hj hl hq

/-- **the router closes itself and Run returns nil**: Run is blocked in its wait for the close (handlers registered
    before or after Run – the model does not distinguish), every handler's loop has ended (the last handler ended: by
    Stop, because its subscription was closed, or because the Run context was cancelled) and no invocation is in
    flight.  Then, as long as Run has not returned, a step of the router itself is enabled: the watcher takes the
    buffered token (fix D14), sees `handlersWg = 0`, calls Close; Close gets its locks, its two waits succeed, it
    closes closedCh; Run cancels and returns.  No state on the way is stuck, whatever the callers do. -/
theorem self_close_progress (s : St) (h : Reach (sys allFixed) s)
    (hr : s.run = .waitClosing ∨ s.run = .waitClosed) (hne : s.hs ≠ [])
    (hl : loopsEnded s = true) (hq : noneInFlight s = true) : InternalEnabled s := by
  have hctl := reach_ctl allFixed s h
  have hw := reach_watch allFixed rfl s h
  by_cases hclosed : s.closed = true
  · -- a Close is under way or finished
    cases hcc : s.closedCh with
    | true =>
      rcases hr with hr | hr
      · exact ⟨.runCancelStep, rfl, (Step.runCancelStep hr (hctl.k6.trans hclosed)).enabled⟩
      · exact ⟨.runRet, rfl, (Step.runRet hr hcc).enabled⟩
    | false =>
      obtain ⟨k, hk⟩ := hctl.k7 hclosed hcc
      exact performer_internal s h k hk hl hq
  · cases hwatch : s.watch with
    | off =>
      have := hw.w1.mp hwatch
      rcases hr with hr | hr <;> rw [hr] at this <;> cases this
    | presel => exact ⟨.watchArrive, rfl, (Step.watchArrive hwatch).enabled⟩
    | sel =>
      rcases hw.w2 (Or.inr (Or.inr hwatch)) with h1 | h1
      · exact absurd h1 hne
      · exact ⟨.watchTok, rfl, (Step.watchTok hwatch h1).enabled⟩
    | wait => exact ⟨.watchZero, rfl, (Step.watchZero hwatch hl).enabled⟩
    | check =>
      cases hcl : s.cl with
      | none => exact ⟨.watchCheck, rfl, watchCheck_enabled hwatch hcl⟩
      | some j => exact holder_internal s h j hcl hl hq
    | done =>
      rcases hw.w3 hwatch with h1 | ⟨k, hk⟩
      · exact absurd h1 hclosed
      · cases hcl : s.cl with
        | some j => exact holder_internal s h j hcl hl hq
        | none =>
          rcases hk with hk | hk
          · exact ⟨.closeCL k, rfl, (Step.closeCL hk hcl).enabled⟩
          · have := hctl.k2 k hk; rw [hcl] at this; cases this

/-- needs none of the repairs: the close protocol's bookkeeping (`CtlOk`) holds for every `Fix` -/
theorem closed_of_run_returned (fx : Fix) (s : St) (h : Reach (sys fx) s) (hr : s.run = .ret) :
    s.closedCh = true ∧ s.closed = true ∧ (s.closeNil = true ∨ s.closeErr = true) :=
  let ⟨hcc, hret, _⟩ := (run_returns_only_after_closed fx s h).1 hr
  ⟨hcc, (reach_ctl fx s h).k5.1 hcc, hret⟩

/-- … and when Run has returned the close has completed; with every loop ended and nothing in flight the timeout branch is
    the only way it could have reported an error (the nil branch `closeDone` was enabled – `performer_internal`) -/
theorem run_returned_means_closed (s : St) (h : Reach (sys allFixed) s) (hr : s.run = .ret) :
    s.closedCh = true ∧ s.closed = true ∧ (s.closeNil = true ∨ s.closeErr = true) :=
  closed_of_run_returned allFixed s h hr

/-- needs none of the repairs, and holds in any state: both steps are guarded by the handler's context only -/
theorem wind_down_of_cancel (fx : Fix) (s : St) (i : Nat) (y : Handler) (hy : s.hs[i]? = some y)
    (hc : s.extCancel = true) :
    (y.pump ≠ .off → y.innerClosed = false → (act fx s (.innerCtx i)).isSome = true) ∧
    (y.hc = .sel → (act fx s (.hcCtx i)).isSome = true) := by
  have hctx : ctxOf s y = true := by simp [ctxOf, hc]
  exact ⟨fun hp hic => (Step.innerCtx hy hp hctx hic).enabled, fun hsel => hcCtx_enabled hy hsel hctx⟩

/-- the Run context is cancelled: every live subscription can end (the subscriber honours its context) and every
    handleClose goroutine at its select can proceed – the handlers wind down without any further caller action -/
theorem cancel_winds_handlers_down (s : St) (i : Nat) (y : Handler) (hy : s.hs[i]? = some y) (hc : s.extCancel = true) :
    (y.pump ≠ .off → y.innerClosed = false → (act allFixed s (.innerCtx i)).isSome = true) ∧
    (y.hc = .sel → (act allFixed s (.hcCtx i)).isSome = true) :=
  wind_down_of_cancel allFixed s i y hy hc

end Wm.RouterLife
