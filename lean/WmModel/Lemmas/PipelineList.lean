/-
  List facts used by the Pipeline proofs.  A list with a known element at index `i` is, up to order, that element
  plus "the rest" (`eraseIdx i`); `set i b` followed by appended elements is `b`, the appended elements and the same
  rest.  Membership, sums and lengths then follow from `List.Perm`.
-/
namespace Wm.Pipeline.ListLemmas

variable {α : Type}

theorem lt_of_getElem? {l : List α} {i : Nat} {a : α} (h : l[i]? = some a) : i < l.length :=
  (List.getElem?_eq_some_iff.1 h).1

theorem perm_eraseIdx {l : List α} {i : Nat} {a : α} (h : l[i]? = some a) : l.Perm (a :: l.eraseIdx i) := by
  induction l generalizing i with
  | nil => cases h
  | cons b t ih =>
    cases i with
    | zero => cases h; exact .refl _
    | succ j => exact ((ih h).cons b).trans (.swap a b _)

theorem getElem?_set_append {l : List α} {i : Nat} (hi : i < l.length) (b : α) (e : List α) :
    (l.set i b ++ e)[i]? = some b := by
  rw [List.getElem?_append_left (by simpa using hi)]
  exact List.getElem?_set_self hi

theorem eraseIdx_set_append {l : List α} {i : Nat} (hi : i < l.length) (b : α) (e : List α) :
    (l.set i b ++ e).eraseIdx i = l.eraseIdx i ++ e := by
  rw [List.eraseIdx_append_of_lt_length (by simpa using hi), List.eraseIdx_set_eq]

theorem perm_set_append {l : List α} {i : Nat} (hi : i < l.length) (b : α) (e : List α) :
    (l.set i b ++ e).Perm (b :: e ++ l.eraseIdx i) := by
  have h := perm_eraseIdx (getElem?_set_append hi b e)
  rw [eraseIdx_set_append hi] at h
  exact h.trans (.cons b List.perm_append_comm)

theorem length_mul_eraseIdx {l : List α} {i : Nat} {a : α} (h : l[i]? = some a) (c : Nat) :
    l.length * c = (l.eraseIdx i).length * c + c := by
  rw [(perm_eraseIdx h).length_eq, List.length_cons, Nat.succ_mul]

theorem sum_eraseIdx_lt {l : List α} {i : Nat} {a : α} (h : l[i]? = some a) (w : α → Nat) (hpos : 0 < w a) :
    ((l.eraseIdx i).map w).sum < (l.map w).sum := by
  rw [((perm_eraseIdx h).map w).sum_nat, List.map_cons, List.sum_cons]
  exact Nat.lt_add_of_pos_left hpos

/-- the entry at `i` becomes `b` and `e` is appended: the total grows by less than `c` if `b` and `e` together outweigh
    the old entry by less than `c` (`c = 0`: the total drops) -/
theorem sum_set_append_lt {l : List α} {i : Nat} {a : α} (h : l[i]? = some a) (b : α) (e : List α) (w : α → Nat)
    {c : Nat} (hlt : w b + (e.map w).sum < w a + c) : ((l.set i b ++ e).map w).sum < (l.map w).sum + c := by
  rw [((perm_set_append (lt_of_getElem? h) b e).map w).sum_nat, ((perm_eraseIdx h).map w).sum_nat]
  simp only [List.cons_append, List.map_cons, List.map_append, List.sum_cons, List.sum_append]
  omega

theorem sum_le_length_mul (l : List α) (w : α → Nat) (m : Nat) (h : ∀ x, x ∈ l → w x ≤ m) :
    (l.map w).sum ≤ l.length * m := by
  induction l with
  | nil => exact Nat.zero_le _
  | cons c t ih =>
    rw [List.map_cons, List.sum_cons, List.length_cons, Nat.succ_mul, Nat.add_comm]
    exact Nat.add_le_add (ih fun x hx => h x (List.mem_cons_of_mem _ hx)) (h c (List.mem_cons_self ..))

theorem getD_length_le_foldr_max (ls : List (List α)) (i : Nat) :
    (ls.getD i []).length ≤ (ls.map List.length).foldr max 0 := by
  induction ls generalizing i with
  | nil => exact Nat.le_refl 0
  | cons c t ih =>
    cases i with
    | zero => exact Nat.le_max_left ..
    | succ j => exact Nat.le_trans (ih j) (Nat.le_max_right ..)

end Wm.Pipeline.ListLemmas
