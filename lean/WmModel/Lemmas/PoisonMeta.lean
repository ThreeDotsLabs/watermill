/-
  Helper lemmas about metadata as an association list (`mset` = Go map write, `List.lookup` = Go map read).
  Used by Props/C13.lean and Props/C17.lean.
-/
import WmModel.Poison
namespace Wm.Poison

theorem lookup_filter_of_ne (m : Meta) (k k' : Str) (h : k' ≠ k) :
    List.lookup k' (m.filter (fun p => p.1 != k)) = List.lookup k' m := by
  induction m with
  | nil => rfl
  | cons p rest ih =>
    rcases p with ⟨a, b⟩
    rw [List.filter_cons]
    split
    · rw [List.lookup_cons, List.lookup_cons, ih]
    · rename_i hak
      have : a = k := by simpa using hak
      rw [ih, List.lookup_cons, this, beq_false_of_ne h]

theorem lookup_mset (m : Meta) (k v k' : Str) :
    List.lookup k' (mset m k v) = if k' = k then some v else List.lookup k' m := by
  rw [mset, List.lookup_cons]
  split
  · rename_i h; rw [if_pos (eq_of_beq h)]
  · rename_i h; rw [if_neg (ne_of_beq_false h), lookup_filter_of_ne m k k' (ne_of_beq_false h)]

def keys (m : Meta) : List Str := m.map (·.1)

/-- a Go map has each key once: `mset` keeps that -/
theorem mset_nodup (m : Meta) (k v : Str) (h : (keys m).Nodup) : (keys (mset m k v)).Nodup := by
  refine List.nodup_cons.mpr ⟨fun hm => ?_, (List.filter_sublist.map _).nodup h⟩
  obtain ⟨p, hp, hpk⟩ := List.mem_map.mp hm
  exact absurd hpk (by simpa using (List.mem_filter.mp hp).2)

theorem msets_nodup (m : Meta) (kvs : List (Str × Str)) (h : (keys m).Nodup) : (keys (msets m kvs)).Nodup := by
  induction kvs generalizing m with
  | nil => exact h
  | cons kv rest ih => exact ih _ (mset_nodup m kv.1 kv.2 h)

end Wm.Poison
