/-
  C02 – any number of messages in flight on one handler.
  `handleMessage` runs in its own goroutine per message; an execution with `n` messages in flight is an
  interleaving of the `n` per-message effect lists (assumption, fact-checked on every run: the per-message code
  shares no mutable handler state, so the effects of one message do not depend on the others).  For EVERY
  interleaving (= every schedule) and every `n`, the effects of message `i` inside it are exactly
  `handle c oᵢ pᵢ`, hence every clause of C02 holds per message inside the interleaved execution.
  Also: the middleware prefix used by the harness (`chain`).
-/
import WmModel.Props.C02
namespace Wm.Handle

variable {α β : Type}

/-- `t` is an interleaving of the sequences `ts`; events are tagged with the index of their sequence -/
inductive Interleave : List (List β) → List (Nat × β) → Prop
  | nil (ts : List (List β)) : (∀ l ∈ ts, l = []) → Interleave ts []
  | step (ts : List (List β)) (i : Nat) (x : β) (rest : List β) (t : List (Nat × β)) :
      ts[i]? = some (x :: rest) → Interleave (ts.set i rest) t → Interleave ts ((i, x) :: t)

/-- the events of sequence `i` inside `t`, in their order -/
def proj (i : Nat) (t : List (Nat × β)) : List β :=
  t.filterMap (fun e => if e.1 = i then some e.2 else none)

theorem proj_nil (i : Nat) : proj i ([] : List (Nat × β)) = [] := rfl

theorem proj_cons (i j : Nat) (x : β) (t : List (Nat × β)) :
    proj i ((j, x) :: t) = if j = i then x :: proj i t else proj i t := by
  by_cases h : j = i <;> simp [proj, h]

theorem proj_append (i : Nat) (a b : List (Nat × β)) : proj i (a ++ b) = proj i a ++ proj i b := by
  simp [proj, List.filterMap_append]

theorem mem_proj (i : Nat) (x : β) (t : List (Nat × β)) : x ∈ proj i t ↔ (i, x) ∈ t := by
  simp only [proj, List.mem_filterMap, Option.ite_none_right_eq_some, Option.some.injEq]
  exact ⟨fun ⟨e, he, h1, h2⟩ => by rw [← h1, ← h2]; exact he, fun h => ⟨_, h, rfl, rfl⟩⟩

/-- **interleaving lifts per-sequence facts**: the projection of any interleaving on sequence `i` is sequence `i` -/
theorem proj_interleave (ts : List (List β)) (t : List (Nat × β)) (h : Interleave ts t) :
    ∀ i, i < ts.length → ts[i]? = some (proj i t) := by
  induction h with
  | nil ts hall =>
    intro i hi
    have := hall ts[i] (List.getElem_mem hi)
    rw [List.getElem?_eq_getElem hi, this, proj_nil]
  | step ts j x rest t hj _ ih =>
    intro i hi
    have hlen : (ts.set j rest).length = ts.length := List.length_set
    have ih' := ih i (by rw [hlen]; exact hi)
    rw [proj_cons]
    by_cases hji : j = i
    · subst hji
      rw [List.getElem?_set_self (by exact hi)] at ih'
      injection ih' with ih'
      simp [hj, ih']
    · rw [List.getElem?_set_ne hji] at ih'
      simp [hji, ih']

/-- events of message `i` satisfying `P`, counted in `t` directly -/
theorem filter_proj (i : Nat) (P : β → Bool) (t : List (Nat × β)) :
    (t.filter (fun e => decide (e.1 = i) && P e.2)).map (·.2) = (proj i t).filter P := by
  induction t with
  | nil => rfl
  | cons e t ih =>
    rcases e with ⟨j, y⟩
    rw [proj_cons]
    by_cases h : j = i
    · subst h
      cases hp : P y <;> simp [hp, ih]
    · simp [h, ih]

def batch (c : Cfg) (ss : List (Outcome α × PubOutcome)) : List (List (Effect α)) :=
  ss.map (fun s => handle c s.1 s.2)

/-- **in-flight independence**: in every interleaved execution of any number of messages on one handler, the
    effects of message `i` are exactly `handle` of its own script -/
theorem inflight_independent (c : Cfg) (ss : List (Outcome α × PubOutcome)) (t : List (Nat × Effect α))
    (h : Interleave (batch c ss) t) (i : Nat) (hi : i < ss.length) :
    proj i t = handle c ss[i].1 ss[i].2 := by
  have := proj_interleave _ _ h i (by simpa [batch] using hi)
  simp [batch, List.getElem?_map, List.getElem?_eq_getElem hi] at this
  exact this.symm

/-- every message of the batch is settled by the router exactly once, whatever the schedule -/
theorem inflight_settles_exactly_once (c : Cfg) (ss : List (Outcome α × PubOutcome)) (t : List (Nat × Effect α))
    (h : Interleave (batch c ss) t) (i : Nat) (hi : i < ss.length) :
    (t.filter (fun e => decide (e.1 = i) && e.2.isRouterSettle)).length = 1 := by
  have := filter_proj i Effect.isRouterSettle t
  rw [inflight_independent c ss t h i hi] at this
  rw [← List.length_map (f := (·.2)), this]
  exact settles_exactly_once c _ _

/-- the router's Ack of message `i` occurs in the execution iff `i`'s own chain succeeded and its outputs were accepted -/
theorem inflight_ack_iff (c : Cfg) (ss : List (Outcome α × PubOutcome)) (t : List (Nat × Effect α))
    (h : Interleave (batch c ss) t) (i : Nat) (hi : i < ss.length) :
    (i, Effect.routerAck) ∈ t ↔ AckCond c ss[i].1 ss[i].2 := by
  rw [← mem_proj, inflight_independent c ss t h i hi, ack_iff]

/-- in the interleaved execution no publish effect of message `i` comes after the router's Ack of message `i`,
    and every Publish of message `i` that ended before it ended successfully -/
theorem inflight_publish_before_ack (c : Cfg) (ss : List (Outcome α × PubOutcome)) (t : List (Nat × Effect α))
    (h : Interleave (batch c ss) t) (i : Nat) (hi : i < ss.length) (pre suf : List (Nat × Effect α))
    (hs : t = pre ++ (i, .routerAck) :: suf) :
    (∀ e, (i, e) ∈ suf → e.isPublish = false) ∧ (∀ r, (i, Effect.publishRet r) ∈ pre → r = .accept) ∧
    (∀ outs, ss[i].1.result = .returns outs false → outs ≠ [] →
      (i, Effect.publishCall (pubTopic c) outs) ∈ pre ∧ (i, Effect.publishRet .accept) ∈ pre) := by
  have hp := inflight_independent c ss t h i hi
  rw [hs, proj_append, proj_cons] at hp
  simp only [if_true] at hp
  obtain ⟨h1, h2, h3⟩ := publish_before_ack c _ _ _ _ hp.symm
  refine ⟨fun e he => h1 e ((mem_proj i e suf).mpr he), fun r hr => h2 r ((mem_proj i _ pre).mpr hr), ?_⟩
  intro outs hres hne
  obtain ⟨a, ha⟩ := h3 outs hres hne
  constructor
  · rw [← mem_proj, ha]; simp
  · rw [← mem_proj, ha]; simp

/-- a settlement the handler made itself for message `i` is what the subscriber of `i` sees, whatever the schedule -/
theorem inflight_self_settlement_wins (k : Ack.Kind) (c : Cfg) (ss : List (Outcome α × PubOutcome))
    (t : List (Nat × Effect α)) (h : Interleave (batch c ss) t) (i : Nat) (hi : i < ss.length) (s : Settle)
    (hself : ss[i].1.selfSettle = some s) :
    sentAfter k (proj i t) = s.toSent := by
  rw [inflight_independent c ss t h i hi]
  have := self_settlement_wins k c s ss[i].1.result ss[i].2
  rw [← hself] at this
  exact this

/-! ## the receive loop: every message taken from the subscriber is dispatched, also after stop/cancel/close -/

/-- what the receive loop of a handler sees: a message coming out of the subscriber's channel, or the handler's context
    being cancelled (Handler.Stop, cancel of Run's context, Router.Close) -/
inductive LoopEv (β : Type) | recv (m : β) | cancel

/-- `handler.run`: `for msg := range h.messagesCh { …Add(1)…; go h.handleMessage(msg, chain) }` – the messages for which
    `handleMessage` is started; `cancelled` is carried along and (fact `run_receive_loop_branching_statements = 0`,
    checked on every run) never consulted -/
def spawned : Bool → List (LoopEv β) → List β
  | _, [] => []
  | c, .recv m :: rest => m :: spawned c rest
  | _, .cancel :: rest => spawned true rest

def received : List (LoopEv β) → List β
  | [] => []
  | .recv m :: rest => m :: received rest
  | .cancel :: rest => received rest

/-- **no cancel-dependent skip**: wherever the cancellations fall, `handleMessage` is started for exactly the messages
    that came out of the subscriber's channel, in their order -/
theorem spawned_eq_received (c : Bool) (evs : List (LoopEv β)) : spawned c evs = received evs := by
  induction evs generalizing c with
  | nil => rfl
  | cons e rest ih => cases e <;> simp [spawned, received, ih]

/-- a message handed out by the subscriber AFTER the cancel is dispatched like the ones before it -/
theorem late_message_dispatched (early late : List β) :
    spawned false (early.map .recv ++ .cancel :: late.map .recv) = early ++ late := by
  have hrecv : ∀ (l : List β) (rest : List (LoopEv β)), received (l.map .recv ++ rest) = l ++ received rest := by
    intro l rest
    induction l with
    | nil => rfl
    | cons m r ih => simp [received, ih]
  have := hrecv late []
  rw [spawned_eq_received, hrecv, received]
  simpa [received] using this

/-- … and therefore settled exactly once by its own `handleMessage`, in every interleaving with the others -/
theorem late_messages_settled_once (c : Cfg) (early late : List (Outcome α × PubOutcome)) (t : List (Nat × Effect α))
    (h : Interleave (batch c (spawned false (early.map .recv ++ .cancel :: late.map .recv))) t) (i : Nat)
    (hi : i < early.length + late.length) :
    (t.filter (fun e => decide (e.1 = i) && e.2.isRouterSettle)).length = 1 := by
  rw [late_message_dispatched] at h
  exact inflight_settles_exactly_once c (early ++ late) t h i (by simpa using hi)

example : spawned false [LoopEv.recv 1, .cancel, .recv 2, .cancel, .recv 3] = [1, 2, 3] := by decide

/-! ## middleware prefix of the harness -/

/-- passthrough middlewares change nothing -/
theorem chain_pass_id (n : Nat) (o : Outcome α) : chain (List.replicate n Mw.pass) o = o := by
  induction n with
  | zero => rfl
  | succ n ih => simp [chain, List.replicate_succ, applyMw] at ih ⊢; exact ih

def addedOuts : List (Mw α) → List α
  | [] => []
  | .pass :: rest => addedOuts rest
  | .rebuild :: rest => addedOuts rest
  | .addOut x :: rest => addedOuts rest ++ [x]

/-- what a chain of middlewares returns: the handler's own settlement, error flag and outputs, followed by the
    outputs added by the output-adding middlewares from the innermost to the outermost; a panic passes through -/
theorem chain_outs (mws : List (Mw α)) (s : Option Settle) :
    (∀ outs e, chain mws ⟨s, .returns outs e⟩ = ⟨s, .returns (outs ++ addedOuts mws) e⟩) ∧
    (∀ v, chain mws ⟨s, .panics v⟩ = ⟨s, .panics v⟩) := by
  induction mws with
  | nil => simp [chain, addedOuts]
  | cons m rest ih =>
    have hc : ∀ o, chain (m :: rest) o = applyMw m (chain rest o) := fun _ => rfl
    simp only [hc, ih.1, ih.2]
    cases m <;> simp [applyMw, addedOuts]

/-! ## non-vacuity -/

/-- two messages in flight: the second one is handled entirely between the handler call and the settlement of the first -/
example : Interleave
    (batch ⟨.withPub, "t"⟩ [((⟨none, .returns [] false⟩ : Outcome Nat), .accept), (⟨some .nack, .returns [] true⟩, .accept)])
    [(0, .handlerCalled), (1, .handlerCalled), (1, .selfNack), (0, .addCtx []), (1, .routerNack), (1, .done),
     (0, .routerAck), (0, .done)] := by
  refine .step _ 0 _ _ _ rfl (.step _ 1 _ _ _ rfl (.step _ 1 _ _ _ rfl (.step _ 0 _ _ _ rfl
    (.step _ 1 _ _ _ rfl (.step _ 1 _ _ _ rfl (.step _ 0 _ _ _ rfl (.step _ 0 _ _ _ rfl (.nil _ ?_))))))))
  decide
example : chain [Mw.addOut 100, .pass, .addOut 102] (⟨none, .returns [0, 1] true⟩ : Outcome Nat) =
    ⟨none, .returns [0, 1, 102, 100] true⟩ := by decide

end Wm.Handle
