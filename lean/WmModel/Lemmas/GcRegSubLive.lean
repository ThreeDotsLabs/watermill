import WmModel.Lemmas.GcRegLive
import WmModel.Lemmas.GcRegAux
namespace Wm.GcReg

variable {s s' : St} {a : Action} {i : Nat} {old new : Th} {l : List Th} {subs subs' : List (Nat × Nat)}

def SubLiveOn (l : List Th) (subs : List (Nat × Nat)) : Prop := ∀ (sid t : Nat), (sid, t) ∈ subs → TdLive l t sid

/-- every registered subscription still has its unsubscribe goroutine (which will close and remove it) -/
def SubLive (s : St) : Prop := SubLiveOn s.ths s.subs

theorem sl_init (cfg : Cfg) : SubLive (init cfg) := by simp [SubLive, SubLiveOn, init]

theorem sl_set (hw : ∀ sid t, (sid, t) ∈ subs' → TdLive l t sid)
    (fwd : ∀ t sid pc, l[i]? = some (Th.td t sid pc) → pc ≠ TPc.done → (sid, t) ∈ subs' →
      ∃ pc', new = Th.td t sid pc' ∧ pc' ≠ TPc.done) : SubLiveOn (l.set i new) subs' :=
  fun sid t hm => tdLive_set (hw sid t hm) (fun pc hj hpc => fwd t sid pc hj hpc hm)

theorem sl_set_other (h : SubLiveOn l subs) (hold : l[i]? = some old) (ho : isTd old = false) : SubLiveOn (l.set i new) subs :=
  sl_set h (fun _ _ _ hj _ _ => by rw [hold] at hj; injection hj with hj; subst hj; cases ho)

theorem sl_td_move {t sid : Nat} {pc0 pc1 : TPc} (h : SubLiveOn l subs) (hold : l[i]? = some (Th.td t sid pc0))
    (hp1 : pc1 ≠ TPc.done) : SubLiveOn (l.set i (Th.td t sid pc1)) subs :=
  sl_set h (fun _ _ _ hj _ _ => by rw [hold] at hj; injection hj with hj; injection hj with e1 e2; subst e1 e2; exact ⟨pc1, rfl, hp1⟩)

theorem sl_append (h : SubLiveOn l subs) : SubLiveOn (l ++ [new]) subs :=
  fun sid t hm => tdLive_append (h sid t hm)

theorem sl_step (hlive : LiveOk s) (haux : AuxOk s) (h : SubLive s) (hs : Step s a s') :
    SubLive s' := by
  cases hs with
  | newPub | newPubNested | newSub | newClose => exact sl_append h
  | cancel | senderDone | panic => exact h
  | subTlock i t hth => exact sl_append (sl_set_other h hth rfl)
  | thread hth hm =>
    cases hm with
    | subRegister =>
      -- the goroutine of the subscription just registered is the one `LiveOk` keeps for a Subscribe at `register`
      refine sl_set (fun sid' t' hm => ?_) (fun _ _ _ hj _ _ => by rw [hth] at hj; cases hj)
      rcases List.mem_append.mp hm with hm | hm
      · exact h sid' t' hm
      · cases List.mem_singleton.mp hm; exact hlive.1 _ _ _ hth
    | tdRemove =>
      -- the removed subscription is the goroutine's own, and it was registered once
      refine sl_set (fun sid' t' hm => h sid' t' (List.mem_of_mem_erase hm)) (fun _ _ _ hj _ hm => ?_)
      rw [hth] at hj; injection hj with hj; injection hj with e1 e2; subst e1 e2
      exact absurd hm haux.2.2.2.2.not_mem_erase
    | tdIdle | tdSubClosed | tdAnnounce | tdDrain | tdTlock => exact sl_td_move h hth nofun
    | _ => exact sl_set_other h hth rfl

end Wm.GcReg
