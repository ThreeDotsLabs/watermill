/-
  C07 for the subscriber decorator (model M_dec, GcDec.lean) – any number of concurrent Subscribe and Close calls on a
  `MessageTransformSubscriberDecorator`, any behaviour of the inner subscriber allowed by C07 for it, a consumer that may
  stop reading at any time, every interleaving:
  * `dec_never_panics`: no double `close(out)`, no double `close(closing)`, `subscribeWg` never negative, and
    `subscribeWg.Add` never runs while a Close call is inside `subscribeWg.Wait` (the defect repaired by fix 5f07168).
  * `dec_close_never_stuck`, `dec_steps_bounded`, `dec_close_terminates`: while a Close call has not returned some
    thread of the decorator can move (in the proof: the call itself, the holder of the lock it asks for, or a goroutine
    it waits for) – without the consumer and without the inner subscriber doing anything more; the decorator's
    goroutines cannot spin; hence a run of the decorator's own steps from `s` has at most `phi s` of them, and where no
    thread can move every Close call has returned.
  * `dec_after_close`: once a Close call has returned, `closing` is signalled, the inner subscriber is closed with all
    its channels, and every unfinished pump (also one started later by a Subscribe that was overtaken by Close) can move
    on its own; where nothing can move any more every pump has closed its `out` channel – exactly once
    (that it is closed only once is part of never-panics: a second `close(out)` is a panic of the model).
  * `dec_forwarding`: a pump's counters satisfy received = forwarded + dropped (+ 1 while it offers a message on `out`),
    and it drops nothing before `closing` is signalled.  Messages are counted, not told apart: M_dec says nothing about
    their order.
-/
import WmModel.Lemmas.GcDecWg
import WmModel.Lemmas.GcDecCh
import WmModel.Lemmas.GcDecCl
import WmModel.Lemmas.GcDecProg
import WmModel.Lemmas.GcDecMeasure
import WmModel.Lemmas.GcDecPump
import WmModel.Lts
namespace Wm.GcDec
open Wm.Lts

def sys : Sys St Action := { init := init, act := act }

theorem reach_lk : ∀ s, Reach sys s → LkOk s :=
  inv_of_step sys LkOk lk_init lk_step
theorem reach_wg : ∀ s, Reach sys s → WgOk s :=
  inv_of_step sys WgOk wg_init wg_step
theorem reach_ch : ∀ s, Reach sys s → ChOk s :=
  inv_of_step sys ChOk ch_init ch_step
theorem reach_cl : ∀ s, Reach sys s → ClOk s :=
  inv_of_step sys ClOk cl_init cl_step
theorem reach_pk : ∀ s, Reach sys s → PumpOk s :=
  inv_of_step sys PumpOk pk_init pk_step

/-- none of the misuses can happen where the invariants hold -/
theorem no_panic (s : St) (i : Nat) (hlk : LkOk s) (hwg : WgOk s) (hch : ChOk s) (hcl : ClOk s) : ¬ Panics s i := by
  intro hp
  cases hp with
  | addInWait hth hw =>
    -- `Add` while a Close call is inside `Wait`: both would hold `subscribeWgLock`
    have h2 := (hlk _).2 ⟨_, hw, rfl⟩
    rw [(hlk i).2 ⟨_, hth, rfl⟩] at h2
    injection h2 with h2; subst h2
    rw [hth] at hw; cases hw
  | closingTwice hth hod hc => rw [hcl.1, hc] at hod; cases hod
  | outTwice hth hm =>
    -- `out` already closed: only this pump owns its channel, and it has not closed it yet
    rename_i k r f d
    obtain ⟨j, th, hj, hd⟩ := hch.2.2 k hm
    have := hch.1 i j _ th k hth hj rfl (own_of_outDone hd)
    subst this
    rw [hth] at hj; injection hj with hj; subst hj
    cases hd
  | doneAtZero hth hz =>
    have := countP_pos_of_get owes _ _ _ hth rfl
    rw [← hwg, hz] at this
    cases this

/-- **the decorator never panics** -/
theorem dec_never_panics : ∀ s, Reach sys s → s.panicked = false :=
  inv_of_step' sys (fun s => s.panicked = false) rfl fun s a s' hr h ha => by
    cases step_of_act ha
    case panic hp => exact absurd hp (no_panic s _ (reach_lk s hr) (reach_wg s hr) (reach_ch s hr) (reach_cl s hr))
    all_goals exact h

/-- **Close of the decorator is never stuck** -/
theorem dec_close_never_stuck (s : St) (h : Reach sys s) (i : Nat) (pc : CPc)
    (hi : s.ths[i]? = some (.closer pc)) (hpc : pc ≠ .ret) : ∃ j, (act s (.step j)).isSome = true :=
  closer_progress s (reach_lk s h) (reach_ch s h) (reach_cl s h) (reach_wg s h) i pc hi hpc

theorem someThreadEnabled_of (s : St) (j : Nat) (h : (act s (.step j)).isSome = true) : someThreadEnabled s = true := by
  have hlt : j < s.ths.length := by
    cases hj : s.ths[j]? with
    | some th => exact (List.getElem?_eq_some_iff.mp hj).1
    | none => simp [act, hj] at h
  exact List.any_eq_true.mpr ⟨j, List.mem_range.mpr hlt, h⟩

theorem dec_quiescent_closed (s : St) (h : Reach sys s) (hq : someThreadEnabled s = false) (i : Nat)
    (pc : CPc) (hi : s.ths[i]? = some (.closer pc)) : pc = .ret := by
  by_cases hpc : pc = .ret
  · exact hpc
  · obtain ⟨j, hj⟩ := dec_close_never_stuck s h i pc hi hpc
    rw [someThreadEnabled_of s j hj] at hq; cases hq

theorem phi_bound (s : St) (h : Reach sys s) (run : List Action) (s' : St) (he : exec sys s run = some s') :
    (run.filter isStep).length + phi s' ≤ phi s + ((run.filter (fun a => !isStep a)).map credit).sum :=
  steps_bounded_credit_fn sys phi isStep credit
    (fun s a s' hr ha hp => by
      have := phi_act s a s' ha (dec_never_panics s' (Reach.step hr ha))
      rw [hp, credit_of_isStep hp] at this; exact this)
    (fun s a s' hr ha hp => by
      have := phi_act s a s' ha (dec_never_panics s' (Reach.step hr ha))
      rw [hp] at this; exact this)
    run s s' h he

/-- **the decorator's goroutines cannot spin**: thread steps and consumer receives in any run are bounded by the credits
    of the calls made and the messages the inner subscriber delivered (8 per Subscribe, 5 per Close, 2 per message) -/
theorem dec_steps_bounded (run : List Action) (s' : St) (he : exec sys init run = some s') :
    (run.filter isStep).length ≤ ((run.filter (fun a => !isStep a)).map credit).sum := by
  have := phi_bound init Reach.init run s' he
  have h0 : phi init = 0 := rfl
  omega

/-- **Close of the decorator terminates**: from any reachable state, a run of the decorator's own steps (and consumer
    receives) has at most `phi s` steps, and where no thread can move every Close call has returned -/
theorem dec_close_terminates (s : St) (h : Reach sys s) (run : List Action) (s' : St)
    (hsteps : ∀ a, a ∈ run → isStep a = true) (he : exec sys s run = some s') :
    run.length ≤ phi s ∧
    (someThreadEnabled s' = false → ∀ (i : Nat) (pc : CPc), s'.ths[i]? = some (.closer pc) → pc = .ret) := by
  refine ⟨?_, fun hq i pc hi => dec_quiescent_closed s' (reach_of_exec sys h run he) hq i pc hi⟩
  have := phi_bound s h run s' he
  have h1 : run.filter isStep = run := List.filter_eq_self.mpr hsteps
  have h2 : run.filter (fun a => !isStep a) = [] :=
    List.filter_eq_nil_iff.mpr fun a ha => by rw [hsteps a ha]; nofun
  rw [h1, h2] at this
  exact Nat.le_trans (Nat.le_add_right _ _) this

/-- **after Close has returned**: `closing` is signalled, the inner subscriber and all its channels are closed, and
    every pump that is not finished can move on its own (no consumer, no inner subscriber needed); where no thread can
    move, every pump is done and its `out` channel is closed -/
theorem dec_after_close (s : St) (h : Reach sys s) (i : Nat) (hi : s.ths[i]? = some (.closer .ret)) :
    s.closing = true ∧ s.innerClosed = true ∧ (∀ c, c ∈ s.ins → c.isOpen = false) ∧
    (∀ (j k : Nat) (pc : PPc) (r f d : Nat), s.ths[j]? = some (.pump k pc r f d) → pc ≠ .done →
        (act s (.step j)).isSome = true) ∧
    (someThreadEnabled s = false → ∀ (j k : Nat) (pc : PPc) (r f d : Nat), s.ths[j]? = some (.pump k pc r f d) →
        pc = .done ∧ k ∈ s.outClosed) := by
  have hcl := reach_cl s h
  have hc : s.closing = true := hcl.2.2.1 i _ hi rfl
  have hic : s.innerClosed = true := hcl.2.1 i _ hi rfl
  have hp : ∀ (j k : Nat) (pc : PPc) (r f d : Nat), s.ths[j]? = some (.pump k pc r f d) → pc ≠ .done →
      (act s (.step j)).isSome = true :=
    fun j k pc r f d hj hpc => pump_progress s hc hic (reach_ch s h) hcl j k pc r f d hj hpc
  refine ⟨hc, hic, hcl.2.2.2 hic, hp, ?_⟩
  intro hq j k pc r f d hj
  have hdone : pc = .done := by
    by_cases hpc : pc = .done
    · exact hpc
    · rw [someThreadEnabled_of s j (hp j k pc r f d hj hpc)] at hq; cases hq
  exact ⟨hdone, (reach_pk s h j _ hj).2.2 (Or.inr hdone)⟩

/-- **forwarding**: received = forwarded + dropped (+ the message being offered); nothing is dropped before `closing` -/
theorem dec_forwarding (s : St) (h : Reach sys s) (j k : Nat) (pc : PPc) (r f d : Nat)
    (hj : s.ths[j]? = some (.pump k pc r f d)) :
    r = f + d + (if pc = .send then 1 else 0) ∧ (s.closing = false → d = 0) := by
  obtain ⟨p1, p2, _⟩ := reach_pk s h j _ hj
  refine ⟨p1, ?_⟩
  intro hc
  cases d with
  | zero => rfl
  | succ n => have := p2 (Nat.succ_pos n); rw [hc] at this; cases this

/-- no inner channel has two pumps, so no `out` channel has two goroutines that close it -/
theorem dec_one_pump_per_channel (s : St) (h : Reach sys s) (i j k : Nat) (pc pc' : PPc) (r f d r' f' d' : Nat)
    (hi : s.ths[i]? = some (.pump k pc r f d)) (hj : s.ths[j]? = some (.pump k pc' r' f' d')) : i = j :=
  (reach_ch s h).1 i j _ _ k hi hj rfl rfl

/-- non-vacuity: Subscribe, two messages (one forwarded, one offered), a second Subscribe overtaken by Close, a consumer
    that has stopped reading; Close returns, both pumps end, both `out` channels are closed -/
def decRun : List Action :=
  [.newSub, .step 0, .step 0, .step 0, .step 0, .step 0, .push 0, .push 0, .step 1, .deliver 1, .step 1,
   .newSub, .step 2, .newClose, .step 3, .step 3, .step 3,
   .step 1, .step 1, .step 1, .step 1, .step 3, .step 3,
   .step 2, .step 2, .step 2, .step 2, .step 4, .step 4, .step 4]

theorem dec_witness :
    ∃ s, exec sys init decRun = some s ∧ s.ths[3]? = some (.closer .ret) ∧
      s.ths[1]? = some (.pump 0 .done 2 1 1) ∧ s.ths[4]? = some (.pump 1 .done 0 0 0) ∧
      s.outClosed = [1, 0] ∧ s.wg = 0 ∧ someThreadEnabled s = false := by
  refine ⟨_, rfl, ?_, ?_, ?_, ?_, ?_, ?_⟩ <;> decide

end Wm.GcDec
