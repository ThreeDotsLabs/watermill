/-
  C20 – Pub/Sub decorators are transparent; delay stamps; metrics count exactly.
  Model: `WmModel/Decor.lean`; lemmas: `WmModel/Lemmas/Decor.lean`.

  All statements quantify over every decorator stack (any depth, any mix of layers – the depth 3 of the
  quantifier is only what the harness runs), every batch, every metadata map, every transform function,
  every generator function, every failure script of the innermost publisher, every handler outcome
  sequence and every clock reading.  Two inductions over the layers carry the stack theorems: `publish_spec`
  (publisher side) and `deliver_spec` (subscriber side).
-/
import WmModel.Decor
import WmModel.Lemmas.Decor
namespace Wm.Decor

/-! ## whole stacks are transparent -/

/-- what "transparent" means for one Publish call that went into a stack in world `w` with the batch `ids`:
    either a delay layer refused – then the innermost publisher is not called and the error is that of the
    delay layer – or the innermost publisher is called exactly once, with the same topic and the same message
    objects in the same order, and its result (nil or error) is what the caller gets; the caller's messages are
    those objects. -/
def Forwarded (topic : String) (ids : List Nat) (w : PWorld) (r : Option Err × List Msg × PWorld) : Prop :=
  (r.2.2.calls = w.calls ∧ (r.1 = some .noDelay ∨ r.1 = some .gen) ∧ r.2.2.script = w.script) ∨
  (∃ ms', r.2.2.calls = w.calls ++ [⟨topic, ms'⟩] ∧ ms'.map (·.id) = ids ∧ r.2.1 = ms' ∧
      r.1 = (if w.script.headD false then some .inner else none) ∧ r.2.2.script = w.script.tail)

/-- what any stack does with one Publish call, by one induction over the layers: it forwards once or not at all,
    and it observes at most once – not at all when the batch comes in marked.  The last part is what makes the
    middle one go through: below the first metrics decorator every message carries the mark. -/
theorem publish_spec (inner : String) (layers : List PubLayer) (topic : String) (ms : List Msg) (w : PWorld) :
    Forwarded topic (ms.map (·.id)) w (publish inner layers topic ms w) ∧
    ∃ extra, (publish inner layers topic ms w).2.2.obs = w.obs ++ extra ∧ extra.length ≤ 1 ∧
      ((∀ m ∈ ms, m.pubMark = true) → extra = []) := by
  induction layers generalizing ms w with
  | nil => exact ⟨.inr ⟨ms, rfl, rfl, rfl, rfl, rfl⟩, [], (List.append_nil _).symm, Nat.zero_le _, fun _ => rfl⟩
  | cons l rest ih =>
    cases l with
    | transform f =>
      obtain ⟨hf, ex, ho, hl, hm⟩ := ih (ms.map (fun m => { m with md := f m.md })) w
      rw [List.map_map] at hf
      exact ⟨hf, ex, ho, hl, fun h => hm (List.forall_mem_map.mpr h)⟩
    | delay cfg =>
      rw [publish_delay, ← applyAll_map (·.id) (fun _ _ => rfl) cfg topic ms]
      cases he : (applyAll cfg topic ms).2.1 with
      | some e =>
        exact ⟨.inl ⟨rfl, (applyAll_error_kind cfg topic ms e he).imp (congrArg some) (congrArg some), rfl⟩, [],
          (List.append_nil _).symm, Nat.zero_le _, fun _ => rfl⟩
      | none =>
        obtain ⟨hf, ex, ho, hl, hm⟩ := ih (applyAll cfg topic ms).1 { w with gens := w.gens ++ (applyAll cfg topic ms).2.2 }
        exact ⟨hf, ex, ho, hl, fun h => hm (applyAll_marked cfg topic ms h)⟩
    | metrics =>
      cases ms with
      | nil => exact ih [] w
      | cons m0 tl =>
        obtain ⟨hf, ex, ho, _, hm⟩ := ih ((m0 :: tl).map (fun m => { m with pubMark := true })) w
        rw [hm (List.forall_mem_map.mpr fun _ _ => rfl), List.append_nil] at ho
        rw [List.map_map] at hf
        simp only [publish]
        split
        · exact ⟨hf, [], ho.trans (List.append_nil _).symm, Nat.zero_le _, fun _ => rfl⟩
        · exact ⟨hf, _, congrArg (· ++ [_]) ho, Nat.le_refl 1, fun h => absurd (h m0 List.mem_cons_self) ‹_›⟩

/-- **every stack forwards a Publish call once or not at all** (any layers, any depth, any batch, any script) -/
theorem stack_one_call_or_none (inner : String) (layers : List PubLayer) (topic : String) (ms : List Msg) (w : PWorld) :
    Forwarded topic (ms.map (·.id)) w (publish inner layers topic ms w) :=
  (publish_spec inner layers topic ms w).1

/-- **transform publisher decorators**: a stack of transform decorators calls the wrapped publisher exactly once
    with the same topic and the messages in order, each transformed once by every function, outermost first;
    the result of the wrapped publisher is returned unchanged. -/
theorem transform_pub_transparent (inner : String) (fs : List (MD → MD)) (topic : String) (ms : List Msg) (w : PWorld) :
    publish inner (fs.map .transform) topic ms w =
      publish inner [] topic (ms.map (fun m => { m with md := fs.foldl (fun acc f => f acc) m.md })) w := by
  induction fs generalizing ms with
  | nil => show _ = publish inner [] topic (ms.map id) w; rw [List.map_id]; rfl
  | cons f rest ih => simp only [List.map_cons, publish, ih, List.map_map]; rfl

/-- **Close passes through once**: on every stack, `Close` reaches the wrapped publisher exactly once and its result
    comes back unchanged -/
theorem close_pub_passes_once (layers : List PubLayer) (closeErr : Bool) (w : PWorld) :
    closePub layers closeErr w = (if closeErr then some .close else none, { w with closes := w.closes + 1 }) := by
  induction layers with
  | nil => rfl
  | cons _ _ ih => exact ih

def hasSubMetrics : List SubLayer → Bool
  | [] => false
  | .metrics :: _ => true
  | _ :: r => hasSubMetrics r

/-- what any subscriber stack does with one message, by one induction over the layers: it touches the metadata and
    the subscribe mark only, and starts exactly one counting goroutine iff the message came in unmarked and the stack
    holds at least one metrics decorator (the innermost one starts it, so `s` is its label) -/
theorem deliver_spec (inner : String) (layers : List SubLayer) (m : Msg) :
    ∃ md s, deliver inner layers m =
      ({ m with md := md, subMark := m.subMark || hasSubMetrics layers },
       if m.subMark || !hasSubMetrics layers then [] else [⟨m.id, orElse m.hName noHandler, s⟩]) := by
  induction layers with
  | nil => exact ⟨m.md, "", by simp [deliver, hasSubMetrics]⟩
  | cons l rest ih =>
    obtain ⟨md, s, h⟩ := ih
    cases l with
    | transform f => exact ⟨f md, s, by simp only [deliver, h]; rfl⟩
    | metrics =>
      refine ⟨md, if hasSubMetrics rest then s else orElse m.sName (subStackName inner rest), ?_⟩
      simp only [deliver, h]
      cases m.subMark <;> cases hasSubMetrics rest <;> simp [hasSubMetrics]

/-- subscriber side: identity and order.  The object handed to the consumer *is* the inner subscriber's object
    (`id` = identity of the Go pointer; no layer copies), so settling it settles the inner message. -/
theorem transform_same_object (inner : String) (layers : List SubLayer) (m : Msg) :
    (deliver inner layers m).1.id = m.id := by
  obtain ⟨_, _, h⟩ := deliver_spec inner layers m
  rw [h]

theorem deliver_ids (inner : String) (layers : List SubLayer) (l : List Msg) :
    ((l.map (deliver inner layers)).map (·.1)).map (·.id) = l.map (·.id) := by
  rw [List.map_map, List.map_map]
  exact List.map_congr_left fun m _ => transform_same_object inner layers m

/-- **every message passes once and in order**: a consumer that reads `reads` messages receives exactly the first
    `reads` objects of the inner subscription, in order, each once -/
theorem transform_sub_in_order (inner : String) (layers : List SubLayer) (msgs : List Msg) (reads : Nat) :
    (subscribeRun inner layers msgs reads).1.map (·.id) = (msgs.take reads).map (·.id) :=
  deliver_ids inner layers _

/-- settling what the consumer received settles the inner subscriber's message, for any settlement store keyed by
    object identity -/
theorem settle_outer_settles_inner (inner : String) (layers : List SubLayer) (m : Msg) (st : Nat → Settle) :
    st (deliver inner layers m).1.id = st m.id := by
  rw [transform_same_object]

/-- a stack of transform subscriber decorators applies every function exactly once, innermost first -/
theorem transform_sub_transparent (inner : String) (fs : List (MD → MD)) (m : Msg) :
    deliver inner (fs.map .transform) m = ({ m with md := fs.foldr (fun f acc => f acc) m.md }, []) := by
  induction fs with
  | nil => rfl
  | cons f rest ih => simp only [List.map_cons, deliver, ih]; rfl

/-- Subscribe errors and Close pass through every subscriber stack unchanged; Close reaches the inner subscriber once -/
theorem sub_error_close_pass (layers : List SubLayer) (b : Bool) (n : Nat) :
    subscribeErr layers b = (if b then some .sub else none) ∧
    closeSub layers b n = (if b then some .close else none, n + 1) := by
  induction layers with
  | nil => exact ⟨rfl, rfl⟩
  | cons _ _ ih => exact ih

/-- **messages handed out while the wrapped Close is running still pass through**: with a consumer that reads until
    the channel is closed, every message a draining wrapped subscriber hands out during its Close reaches the consumer –
    the same objects, once each, in order – through any stack -/
theorem close_drain_passes_every_message (inner : String) (layers : List SubLayer) (drain : List Msg) :
    (closeDrain inner layers drain).1.map (·.id) = drain.map (·.id) :=
  deliver_ids inner layers _

/-- releasing the pumps before the wrapped Close loses messages: two handed out, one delivered -/
theorem released_first_loses_message_witness :
    ((closeDrainReleasedFirst "s" [.transform id] (fun i => i = 0) [{ id := 0, md := [] }, { id := 1, md := [] }]).map (·.id)) = [0] ∧
    ((closeDrain "s" [.transform id] [{ id := 0, md := [] }, { id := 1, md := [] }]).1.map (·.id)) = [0, 1] := by
  decide

/-- `Add(1)` and the start of the forwarding goroutine sit together behind the error return of `Subscribe` -/
theorem wgRegistered_eq_pumpsStarted (script : List Bool) : wgRegistered script = pumpsStarted script := by
  induction script with
  | nil => rfl
  | cons b rest ih => rw [wgRegistered, pumpsStarted, ih, Nat.add_comm]

/-- **a refused Subscribe passes through and leaves nothing behind**: on any stack every Subscribe call returns the
    wrapped subscriber's own answer for that call (so a retry after a refusal works), and in each transform decorator
    the WaitGroup that `Close` waits on registers exactly the forwarding goroutines that were started – whatever the
    pattern of refusals, `Close` has nothing to wait for once the wrapped Close ended them -/
theorem subscribe_refusal_passes_and_close_returns (layers : List SubLayer) (script : List Bool) :
    subscribeSeq layers script = script.map (fun b => if b then some Err.sub else none) ∧
    wgRegistered script - pumpsStarted script = 0 :=
  ⟨List.map_congr_left fun b _ => (sub_error_close_pass layers b 0).1,
   by rw [wgRegistered_eq_pumpsStarted, Nat.sub_self]⟩

/-- the seeded registration in front of the wrapped Subscribe: one refusal and `Close` waits forever -/
theorem early_registration_blocks_close_witness :
    wgRegisteredEarly [true] - pumpsStarted [true] = 1 ∧ wgRegistered [true] - pumpsStarted [true] = 0 := by
  decide

example : subscribeSeq [.metrics, .transform id] [true, false] = [some .sub, none] := by
  rw [(subscribe_refusal_passes_and_close_returns _ _).1]; rfl

/-- **every Close call passes through, also a retried one**: for any sequence of Close calls on any subscriber stack
    – the wrapped subscriber failing in any pattern – EACH call reaches the wrapped subscriber exactly once and returns
    that call's own result (a decorator that closes the wrapped subscriber only the first time would swallow the retry) -/
theorem close_sub_each_call_passes (layers : List SubLayer) (script : List Bool) (n : Nat) :
    closeSubSeq layers script n =
      (script.map (fun b => if b then some Err.close else none), n + script.length) := by
  induction script generalizing n with
  | nil => rfl
  | cons b rest ih =>
    rw [closeSubSeq, (sub_error_close_pass layers b n).2, ih, Nat.add_assoc, Nat.add_comm 1]
    rfl

example : closeSubSeq [.metrics, .transform id] [true, false] 0 = ([some .close, none], 2) := by
  rw [close_sub_each_call_passes]; rfl

/-- the transparency statements together (name used in DESIGN.md): publisher stacks forward every call once or –
    delay refused – not at all, same topic, same objects, same order, inner result returned; subscriber stacks hand
    over the inner subscriber's objects once each and in order, so settling reaches the inner message; Subscribe
    errors and Close pass unchanged, Close reaching the wrapped object exactly once. -/
theorem transform_transparent :
    (∀ inner layers topic ms w, Forwarded topic (ms.map (·.id)) w (publish inner layers topic ms w)) ∧
    (∀ inner layers msgs reads,
        (subscribeRun inner layers msgs reads).1.map (·.id) = (msgs.take reads).map (·.id)) ∧
    (∀ inner layers m (st : Nat → Settle), st (deliver inner layers m).1.id = st m.id) ∧
    (∀ layers ce w, closePub layers ce w = (if ce then some .close else none, { w with closes := w.closes + 1 })) ∧
    (∀ layers b n, subscribeErr layers b = (if b then some .sub else none) ∧
        closeSub layers b n = (if b then some .close else none, n + 1)) :=
  ⟨stack_one_call_or_none, transform_sub_in_order, settle_outer_settles_inner, close_pub_passes_once,
   sub_error_close_pass⟩

/-! ## delay.Publisher: one stamp, chosen by precedence -/

/-- **precedence chain of `applyDelay`** – metadata already present ⇒ untouched; else the delay in the message
    context; else the default generator (its error is returned and nothing is stamped); else nothing is
    stamped and the call is an error unless `AllowNoDelay`. -/
theorem delay_precedence (cfg : DelayCfg) (topic : String) (m : Msg) :
    (mget m.md forKey ≠ Val.empty → applyDelay cfg topic m = (none, m, false)) ∧
    (mget m.md forKey = Val.empty → ∀ d, m.ctxDelay = some d →
        applyDelay cfg topic m = (none, stamp m d, false)) ∧
    (mget m.md forKey = Val.empty → m.ctxDelay = none → ∀ g, cfg.gen = some g →
        (∀ d, g topic m = some d → applyDelay cfg topic m = (none, stamp m d, true)) ∧
        (g topic m = none → applyDelay cfg topic m = (some .gen, m, true))) ∧
    (mget m.md forKey = Val.empty → m.ctxDelay = none → cfg.gen = none →
        applyDelay cfg topic m = (if cfg.allowNoDelay then none else some .noDelay, m, false)) := by
  refine ⟨fun h => ?_, fun h d hd => ?_, fun h hc g hg => ⟨fun d hd => ?_, fun hn => ?_⟩, fun h hc hg => ?_⟩ <;>
    simp [applyDelay, *]
  split <;> rfl

example : applyDelay ⟨some (fun _ _ => some (Delay.for 0 5)), false⟩ "t"
    { id := 1, md := [(forKey, .raw "soon")], ctxDelay := some (Delay.for 0 7) } =
    (none, { id := 1, md := [(forKey, .raw "soon")], ctxDelay := some (Delay.for 0 7) }, false) :=
  (delay_precedence _ _ _).1 (by simp [mget, Val.empty])

/-- **exactly one stamp**: a stamp writes exactly the two delay keys, both from the same `Delay`, and touches
    nothing else of the message (other metadata, identity, context). -/
theorem delay_stamp_exact (m : Msg) (d : Delay) :
    mget (stamp m d).md forKey = .dur d.dur ∧
    mget (stamp m d).md untilKey = renderTime d.time d.zone ∧
    (∀ k, k ≠ forKey → k ≠ untilKey → mget (stamp m d).md k = mget m.md k) ∧
    (stamp m d).id = m.id ∧ (stamp m d).ctxDelay = m.ctxDelay ∧
    (stamp m d).pubMark = m.pubMark ∧ (stamp m d).subMark = m.subMark :=
  ⟨stamp_for m d, stamp_until m d, stamp_other m d, rfl, rfl, rfl, rfl⟩

/-- **a stamped message is never stamped again**: whatever configuration a second delay publisher has (a stack
    with two delay publishers, or a second Publish of the same object), the message keeps its one stamp -/
theorem delay_stamp_once (cfg cfg' : DelayCfg) (topic topic' : String) (m : Msg)
    (h : (applyDelay cfg topic m).2.1 ≠ m) :
    applyDelay cfg' topic' (applyDelay cfg topic m).2.1 = (none, (applyDelay cfg topic m).2.1, false) := by
  rcases applyDelay_cases cfg topic m with ⟨_, _, _, h1, rfl | ⟨d, rfl⟩⟩ | ⟨_, _, _, h1, _⟩
  · rw [h1] at h; exact absurd rfl h
  · rw [h1]; exact (delay_precedence cfg' topic' _).1 (stamp_for_nonempty m d)
  · rw [h1] at h; exact absurd rfl h

/- non-vacuity of `delay_stamp_once`: a message with a context delay is changed by the first publisher -/
example : (applyDelay ⟨none, false⟩ "t" { id := 0, md := [], ctxDelay := some ⟨5, 5, 0⟩ }).2.1 ≠
    ({ id := 0, md := [], ctxDelay := some ⟨5, 5, 0⟩ } : Msg) := by
  rw [(delay_precedence ⟨none, false⟩ "t" _).2.1 rfl _ rfl]
  exact fun h => stamp_for_nonempty _ _ (congrArg (mget ·.md forKey) h)

/-- **far future, far past, zero time**: where the distance does not fit a `time.Duration` the stamped delayed-for is
    the saturated distance – the largest duration for a delayed-until beyond +292 years, the smallest for one before
    -292 years – so it always has the SIGN of `until - now`, is exact whenever it can be, and never exceeds the distance -/
theorem delay_until_saturates (now t : Int) :
    (t - now > 0 → satDur (t - now) > 0) ∧ (t - now < 0 → satDur (t - now) < 0) ∧ (t = now → satDur (t - now) = 0) ∧
    (minDur ≤ t - now → t - now ≤ maxDur → satDur (t - now) = t - now) ∧
    (t - now > maxDur → satDur (t - now) = maxDur) ∧ (t - now < minDur → satDur (t - now) = minDur) := by
  have hmax : 0 < maxDur := by decide
  have hmin : minDur < 0 := by decide
  refine ⟨fun h => ?_, fun h => ?_, fun h => ?_, satDur_of_fits, satDur_above, satDur_below⟩
  · -- a positive distance is above the lower bound: the result is the distance itself or the upper bound
    by_cases hx : t - now ≤ maxDur
    · rwa [satDur_of_fits (Int.le_of_lt (Int.lt_trans hmin h)) hx]
    · rwa [satDur_above (Int.not_le.mp hx)]
  · by_cases hx : minDur ≤ t - now
    · rwa [satDur_of_fits hx (Int.le_of_lt (Int.lt_trans h hmax))]
    · rwa [satDur_below (Int.not_le.mp hx)]
  · rw [h, Int.sub_self]; rfl

/-- within ±292 years of `now` the instant `t` of a `delay.Until(t)` is `now` plus the stamped duration -/
theorem until_agree (now t : Int) (h1 : minDur ≤ t - now) (h2 : t - now ≤ maxDur) :
    secOf t * 1000000000 ≤ now + satDur (t - now) ∧ now + satDur (t - now) < secOf t * 1000000000 + 1000000000 := by
  rw [satDur_of_fits h1 h2, Int.add_comm, Int.sub_add_cancel]
  exact secOf_bounds t

/-- **delayed-for and delayed-until agree**: for a delay built by `delay.For(d)` or `delay.Until(t)` when the clock
    showed `now`, the stamped until is the second in which `now + for` lies (RFC 3339 keeps whole seconds). -/
theorem delay_for_until_agree (m : Msg) (now x : Int) :
    (∀ u f, mget (stamp m (Delay.for now x)).md untilKey = .time u →
            mget (stamp m (Delay.for now x)).md forKey = .dur f →
            f = x ∧ u * 1000000000 ≤ now + f ∧ now + f < u * 1000000000 + 1000000000) ∧
    (∀ u f, mget (stamp m (Delay.until now x)).md untilKey = .time u →
            mget (stamp m (Delay.until now x)).md forKey = .dur f →
            u = secOf x ∧ f = satDur (x - now) ∧
            (minDur ≤ x - now → x - now ≤ maxDur →
              u * 1000000000 ≤ now + f ∧ now + f < u * 1000000000 + 1000000000)) := by
  constructor <;> intro u f hu hf <;> rw [stamp_until] at hu <;> rw [stamp_for] at hf <;> cases hu <;> cases hf
  · exact ⟨rfl, secOf_bounds _⟩
  · exact ⟨rfl, rfl, until_agree now x⟩

/-- the seeded int64 subtraction: a delayed-until in the year 2400 (seen from 2026) gets a NEGATIVE delayed-for,
    where `Time.Sub` gives the largest duration -/
theorem wrapped_duration_witness :
    satDur (13569465600000000000 - 1790000000000000000) = maxDur ∧
    wrap64 (wrap64 13569465600000000000 - 1790000000000000000) < 0 := by
  decide

/-- **the agreement does not depend on the location the `time.Time` of `delay.Until(t)` carries**: whatever the zone,
    the stamped delayed-until denotes the instant `t` itself – the second in which `now + for` lies – only its
    rendering (suffix `Z` or `+hh:mm`) follows the zone -/
theorem delay_until_zone_agree (m : Msg) (now t zone : Int) :
    ∃ u, (mget (stamp m (Delay.untilIn now t zone)).md untilKey).instantSec = some u ∧ u = secOf t ∧
      mget (stamp m (Delay.untilIn now t zone)).md forKey = .dur (satDur (t - now)) ∧
      (minDur ≤ t - now → t - now ≤ maxDur →
        u * 1000000000 ≤ now + satDur (t - now) ∧ now + satDur (t - now) < u * 1000000000 + 1000000000) ∧
      (zone ≠ 0 → mget (stamp m (Delay.untilIn now t zone)).md untilKey = .timeIn u zone) := by
  refine ⟨secOf t, ?_, rfl, stamp_for _ _, until_agree now t, fun hz => ?_⟩
  · rw [stamp_until]; show (renderTime t zone).instantSec = _; unfold renderTime; split <;> rfl
  · rw [stamp_until]; exact if_neg hz

/-- the seeded layout with a literal `Z`: for a time two hours east of UTC the stamped delayed-until is two hours off -/
theorem wall_clock_relabelled_witness :
    (renderTime 1700000000000000000 7200).instantSec = some 1700000000 ∧
    (renderWallClockAsUTC 1700000000000000000 7200).instantSec = some 1700007200 := by
  decide

example : mget (stamp { id := 0, md := [] } (Delay.for 1700000000123456789 90000000000)).md untilKey = .time 1700000090 := by
  rw [stamp_until]; decide

/-- the loop over the batch fails iff some message has no delay available (generator error, or no source and
    `AllowNoDelay` off); the messages are treated independently of each other -/
theorem delay_batch_error_iff (cfg : DelayCfg) (topic : String) (ms : List Msg) :
    (applyAll cfg topic ms).2.1 = none ↔
      ∀ m ∈ ms, sourceOf cfg topic m ≠ .genError ∧ sourceOf cfg topic m ≠ .refused := by
  induction ms with
  | nil => simp [applyAll]
  | cons m rest ih =>
    rw [List.forall_mem_cons]
    rcases applyDelay_cases cfg topic m with ⟨hs, _, _, h, _⟩ | ⟨hs, _, _, h, _⟩
    · rw [applyAll_cons_ok rest h]; exact ih.trans ⟨fun hr => ⟨hs, hr⟩, (·.2)⟩
    · rw [applyAll_cons_err rest h]; exact ⟨nofun, fun hr => absurd hr.1 hs⟩

/-- without an error every message of the batch went through `applyDelay` exactly once, in order -/
theorem delay_batch_ok (cfg : DelayCfg) (topic : String) (ms : List Msg)
    (h : (applyAll cfg topic ms).2.1 = none) :
    (applyAll cfg topic ms).1 = ms.map (fun m => (applyDelay cfg topic m).2.1) := by
  induction ms with
  | nil => rfl
  | cons m rest ih =>
    rcases applyDelay_cases cfg topic m with ⟨_, _, _, h1, _⟩ | ⟨_, _, _, h1, _⟩
    · rw [applyAll_cons_ok rest h1] at h ⊢; rw [ih h, List.map_cons, h1]
    · rw [applyAll_cons_err rest h1] at h; cases h

/- non-vacuity of `delay_batch_ok` / `delay_batch_error_iff`: a batch mixing pre-set metadata, a context delay and a
   message without any delay under AllowNoDelay has no error; without AllowNoDelay it has -/
example : (applyAll ⟨none, true⟩ "t" [{ id := 0, md := [(forKey, .raw "1h")] }, { id := 1, md := [], ctxDelay := some ⟨5, 5, 0⟩ },
    { id := 2, md := [] }]).2.1 = none := by
  simp [applyAll, applyDelay, mget, Val.empty]
example : (applyAll ⟨none, false⟩ "t" [{ id := 1, md := [], ctxDelay := some ⟨5, 5, 0⟩ }, { id := 2, md := [] }]).2.1 = some .noDelay := by
  simp [applyAll, applyDelay, mget, Val.empty]

/-- **delay_batch_one_call_or_none** for the delay publisher over any inner stack: if some message has no delay
    available the error is returned and *nothing* below is called (no inner Publish, no metric); otherwise the whole
    batch – every message stamped by its own precedence, same order – is handed to the next layer in ONE call,
    whose result is returned. -/
theorem delay_batch_one_call_or_none (inner : String) (cfg : DelayCfg) (rest : List PubLayer)
    (topic : String) (ms : List Msg) (w : PWorld) :
    ((∃ e, (applyAll cfg topic ms).2.1 = some e ∧
        (publish inner (.delay cfg :: rest) topic ms w).1 = some e ∧
        (publish inner (.delay cfg :: rest) topic ms w).2.2.calls = w.calls ∧
        (publish inner (.delay cfg :: rest) topic ms w).2.2.obs = w.obs)) ∨
    ((applyAll cfg topic ms).2.1 = none ∧
        publish inner (.delay cfg :: rest) topic ms w =
          publish inner rest topic (ms.map (fun m => (applyDelay cfg topic m).2.1))
            { w with gens := w.gens ++ (applyAll cfg topic ms).2.2 }) := by
  rw [publish_delay]
  cases he : (applyAll cfg topic ms).2.1 with
  | some e => exact .inl ⟨e, rfl, rfl, rfl, rfl⟩
  | none => rw [delay_batch_ok cfg topic ms he]; exact .inr ⟨rfl, rfl⟩

/-! ## metrics count exactly once, with the right label -/

/-- below a metrics decorator every message carries the mark, so no deeper metrics decorator observes anything:
    the idempotency of stacked decorators -/
theorem publish_marked_no_obs (inner : String) (layers : List PubLayer) (topic : String) (ms : List Msg) (w : PWorld)
    (h : ∀ m ∈ ms, m.pubMark = true) : (publish inner layers topic ms w).2.2.obs = w.obs := by
  obtain ⟨_, _, ho, _, hm⟩ := publish_spec inner layers topic ms w
  rw [ho, hm h, List.append_nil]

example : ∀ m ∈ [({ id := 0, md := [], pubMark := true } : Msg), { id := 1, md := [], pubMark := true }], m.pubMark = true := by
  simp

/-- **metrics_publish_once** (guarded, finding D15 open): a Publish call with a non-empty batch whose first message
    object has not been through a metrics decorator before is observed EXACTLY ONCE by a metrics decorator, whatever
    is stacked below it – further metrics decorators (applied twice, three times, …), delay publishers, transforms –
    and the `success` label is `true` iff the call returned nil (inner failure, generator error and missing delay all
    give `false`); `handler_name` / `publisher_name` come from the first message's context, defaulting to
    `<no handler>` and the wrapped publisher's type name.

    Full statement (does NOT hold, see the two witnesses below): the same for every batch, including the empty one
    and one whose first message already carries the mark (a re-published message object). -/
theorem metrics_publish_once_partial (inner : String) (rest : List PubLayer) (topic : String)
    (m0 : Msg) (tl : List Msg) (w : PWorld) (fresh : m0.pubMark = false) :
    let r := publish inner (.metrics :: rest) topic (m0 :: tl) w
    r.2.2.obs = w.obs ++ [⟨orElse m0.hName noHandler, orElse m0.pName (pubStackName inner rest), r.1.isNone⟩] := by
  simp only [publish, fresh, Bool.false_eq_true, if_false]
  exact congrArg (· ++ [_]) (publish_marked_no_obs inner rest topic _ w (List.forall_mem_map.mpr fun _ _ => rfl))

/-- the same with the metrics decorator anywhere in the stack: under any prefix of transform and delay layers the
    call is observed once if it gets to the decorator and not at all if a delay layer above refused -/
theorem metrics_publish_at_most_once (inner : String) (layers : List PubLayer) (topic : String) (ms : List Msg) (w : PWorld) :
    ∃ extra, (publish inner layers topic ms w).2.2.obs = w.obs ++ extra ∧ extra.length ≤ 1 :=
  have ⟨_, ex, ho, hl, _⟩ := publish_spec inner layers topic ms w
  ⟨ex, ho, hl⟩

/-- "applied twice": two (or any number ≥ 1 of) metrics decorators on top of each other count a fresh call once -/
theorem metrics_publish_once_stacked (inner : String) (k : Nat) (topic : String)
    (m0 : Msg) (tl : List Msg) (w : PWorld) (fresh : m0.pubMark = false) :
    let r := publish inner (nMetrics (k + 1)) topic (m0 :: tl) w
    r.2.2.obs = w.obs ++ [⟨orElse m0.hName noHandler, orElse m0.pName (pubStackName inner (nMetrics k)), r.1.isNone⟩] :=
  metrics_publish_once_partial inner (nMetrics k) topic m0 tl w fresh

def witnessMsg : Msg := { id := 0, md := [] }

/-- **finding D15, first pattern** (`republish-same-message-object`): a failed Publish followed by a retry with the
    same message object – two calls of the wrapped publisher, ONE observation -/
theorem republish_undercount_witness :
    let r1 := publish "p" [.metrics] "t" [witnessMsg] { script := [true, false] }
    let r2 := publish "p" [.metrics] "t" r1.2.1 r1.2.2
    r1.1 = some .inner ∧ r2.1 = none ∧ r2.2.2.calls.length = 2 ∧ r2.2.2.obs.length = 1 := by
  simp [publish, witnessMsg]

/-- **finding D15, second pattern** (`empty-batch`): an empty batch reaches the wrapped publisher and is not observed -/
theorem empty_batch_witness :
    let r := publish "p" [.metrics] "t" [] {}
    r.2.2.calls.length = 1 ∧ r.2.2.obs.length = 0 := by
  simp [publish]

example : (publish "p" [.metrics, .metrics] "t" [witnessMsg] { script := [true] }).2.2.obs =
    [⟨noHandler, "metrics.PublisherPrometheusMetricsDecorator", false⟩] := by
  rw [metrics_publish_once_partial "p" [.metrics] "t" witnessMsg [] { script := [true] } rfl]
  simp [publish, witnessMsg, orElse, pubStackName, PubLayer.name]

theorem subCounts_append (st : Nat → Settle) (a b : List Watcher) :
    subCounts st (a ++ b) = subCounts st a ++ subCounts st b := by
  induction a with
  | nil => rfl
  | cons w r ih => simp only [List.cons_append, subCounts]; split <;> simp [ih]

/-- **metrics_subscribe_once**, one message: through a stack with at least one metrics decorator (also the same
    decorator twice or three times) a fresh message is counted exactly once when it is settled – `acked` iff it was
    acked, `nacked` iff it was nacked – and not at all while it is unsettled.  Without a metrics decorator nothing is
    counted. -/
theorem metrics_subscribe_once (inner : String) (layers : List SubLayer) (m : Msg) (st : Nat → Settle)
    (fresh : m.subMark = false) (hm : hasSubMetrics layers = true) :
    ∃ s, subCounts st (deliver inner layers m).2 =
      (match st m.id with
       | .none => []
       | .ack => [⟨orElse m.hName noHandler, s, true⟩]
       | .nack => [⟨orElse m.hName noHandler, s, false⟩]) := by
  obtain ⟨_, s, h⟩ := deliver_spec inner layers m
  refine ⟨s, ?_⟩
  rw [h, fresh, hm]
  simp only [Bool.false_or, Bool.not_true, Bool.false_eq_true, if_false, subCounts]
  cases st m.id <;> rfl

example : hasSubMetrics [.metrics, .transform id, .metrics] = true ∧ ({ id := 3, md := [] } : Msg).subMark = false :=
  ⟨rfl, rfl⟩

theorem metrics_subscribe_none (inner : String) (layers : List SubLayer) (m : Msg) (st : Nat → Settle)
    (hm : hasSubMetrics layers = false) : subCounts st (deliver inner layers m).2 = [] := by
  obtain ⟨_, _, h⟩ := deliver_spec inner layers m
  rw [h, hm, Bool.not_false, Bool.or_true, if_pos rfl]; rfl

/-- **counting does not depend on the subscription context**: cancelling the context a message carries, at any
    point before or after the settlement, changes nothing – the message is counted iff it is settled, with the label
    of the first settlement -/
theorem metrics_subscribe_counts_after_cancel (evs : List WEv) :
    watcherRun evs = watcherRun (evs.filter (· ≠ .cancel)) ∧
    (watcherRun evs = none ↔ ∀ e ∈ evs, e = .cancel) := by
  constructor
  · induction evs with
    | nil => simp [watcherRun]
    | cons e rest ih => cases e <;> simp [watcherRun, ih]
  · induction evs with
    | nil => simp [watcherRun]
    | cons e rest ih => cases e <;> simp [watcherRun, ih]

/-- the seeded variant that stops waiting when the context is done loses a message settled after the cancellation -/
theorem cancel_aware_watcher_undercount_witness :
    watcherRun [.cancel, .nack] = some false ∧ watcherRunCancelAware [.cancel, .nack] = none := by
  decide

/-- the whole subscription: the number of increments equals the number of received messages that are settled, for
    any number of fresh messages and any consumer -/
theorem metrics_subscribe_once_run (inner : String) (layers : List SubLayer) (msgs : List Msg) (reads : Nat)
    (st : Nat → Settle) (fresh : ∀ m ∈ msgs, m.subMark = false) (hm : hasSubMetrics layers = true) :
    (subCounts st (subscribeRun inner layers msgs reads).2).length =
      ((msgs.take reads).filter (fun m => st m.id ≠ .none)).length ∧
    ((subCounts st (subscribeRun inner layers msgs reads).2).filter (·.acked)).length =
      ((msgs.take reads).filter (fun m => st m.id = .ack)).length := by
  simp only [subscribeRun]
  have hf : ∀ m ∈ msgs.take reads, m.subMark = false := fun m hm' => fresh m (List.mem_of_mem_take hm')
  generalize msgs.take reads = l at hf
  induction l with
  | nil => simp [subCounts]
  | cons m rest ih =>
    have ih' := ih (fun x hx => hf x (List.mem_cons_of_mem _ hx))
    rcases metrics_subscribe_once inner layers m st (hf m (by simp)) hm with ⟨s, hs⟩
    simp only [List.map_cons, List.flatten_cons, subCounts_append, hs, List.filter_cons, List.length_append,
      List.filter_append]
    simp only [List.map_map] at ih'
    cases hst : st m.id <;> simp [ih'.1, ih'.2] <;> omega

example : subCounts (fun _ => .nack) (deliver "s" [.metrics, .transform id, .metrics] { id := 3, md := [] }).2 =
    [⟨noHandler, "s", false⟩] := by
  simp [deliver, subCounts, orElse, subStackName, noHandler]

/-- **metrics_handler_once**, the label: success iff the handler returned without error and did not panic -/
theorem handler_label (h : String) (o : Outcome) :
    (handlerObs h o).handler = h ∧ ((handlerObs h o).success = true ↔ (o ≠ .err ∧ o ≠ .panic)) := by
  cases o <;> simp [handlerObs]

/-- the unrepaired middleware (finding D4, fixed by commit "metrics handler middleware labels a panicking handler
    success=false") labelled a panic as success -/
theorem old_panic_label_witness (h : String) :
    (handlerObsOld h .panic).success = true ∧ (handlerObs h .panic).success = false := by
  simp [handlerObsOld, handlerObs]

theorem nMetrics_succ (k : Nat) : nMetrics (k + 1) = .metrics :: nMetrics k := rfl

theorem hasSubMetrics_n (k : Nat) : hasSubMetrics (nSubMetrics (k + 1)) = true := rfl

/-- what `addHandlerContext` gives a produced message: no publish mark, the handler's and the publisher's name -/
theorem produced_ctx (h pn sn : String) (base n : Nat) :
    ∀ m ∈ produced h pn sn base n, m.pubMark = false ∧ m.hName = h ∧ m.pName = pn := by
  induction n generalizing base with
  | zero => intro _ hm; cases hm
  | succ n ih => exact List.forall_mem_cons.mpr ⟨⟨rfl, rfl, rfl⟩, ih _⟩

theorem produced_fresh (h pn sn : String) (base n : Nat) : ∀ m ∈ produced h pn sn base n, m.pubMark = false :=
  fun m hm => (produced_ctx h pn sn base n m hm).1

/-- `k + 1` metrics subscriber decorators on top of each other: one counting goroutine for a fresh message -/
theorem deliver_nSub (sn : String) (k : Nat) (m : Msg) (fresh : m.subMark = false) :
    (deliver sn (nSubMetrics (k + 1)) m).2 = [⟨m.id, orElse m.hName noHandler, orElse m.sName sn⟩] ∧
    (deliver sn (nSubMetrics (k + 1)) m).1.subMark = true := by
  induction k with
  | zero => simp [nSubMetrics, deliver, fresh, subStackName]
  | succ k ih => rw [show deliver sn (nSubMetrics (k + 2)) m = deliver sn (nSubMetrics (k + 1)) m from if_pos ih.2]; exact ih

/-- a stack of metrics publisher decorators never refuses: one call of the wrapped publisher, its result returned -/
theorem publish_nMetrics (pn topic : String) (k : Nat) (ms : List Msg) (pw : PWorld) :
    (publish pn (nMetrics k) topic ms pw).1 = (if pw.script.headD false then some .inner else none) ∧
    ∃ ms', (publish pn (nMetrics k) topic ms pw).2.2.calls = pw.calls ++ [⟨topic, ms'⟩] := by
  induction k generalizing ms with
  | zero => exact ⟨rfl, ms, rfl⟩
  | succ k ih =>
    cases ms with
    | nil => exact ih []
    | cons a b => simp only [nMetrics, publish]; split <;> exact ih _

/-- the subscriber decorators touch only the SUBSCRIBE mark: what the consumer (or a handler) receives carries the
    publish mark, handler name and publisher name of the inner subscriber's message -/
theorem deliver_keeps_pub (inner : String) (layers : List SubLayer) (m : Msg) :
    (deliver inner layers m).1.pubMark = m.pubMark ∧ (deliver inner layers m).1.hName = m.hName ∧
    (deliver inner layers m).1.pName = m.pName := by
  obtain ⟨_, _, h⟩ := deliver_spec inner layers m
  rw [h]; exact ⟨rfl, rfl, rfl⟩

/-- **a received message is counted on its first Publish**: a fresh message that came through ANY subscriber stack
    (metrics decorators included – they set the subscribe mark, a different context key) and is then handed, same
    object, to a metrics publisher decorator over any stack is observed exactly once, with the label of the result -/
theorem metrics_publish_once_after_receive (subInner pubInner : String) (subLayers : List SubLayer)
    (rest : List PubLayer) (topic : String) (m : Msg) (tl : List Msg) (w : PWorld) (fresh : m.pubMark = false) :
    let m' := (deliver subInner subLayers m).1
    let r := publish pubInner (.metrics :: rest) topic (m' :: tl) w
    r.2.2.obs = w.obs ++ [⟨orElse m.hName noHandler, orElse m.pName (pubStackName pubInner rest), r.1.isNone⟩] := by
  obtain ⟨hm, hh, hp⟩ := deliver_keeps_pub subInner subLayers m
  rw [← hh, ← hp]
  exact metrics_publish_once_partial pubInner rest topic _ tl w (hm.trans fresh)

example : ((publish "p" [.metrics] "t" [(deliver "s" [.metrics, .metrics] { id := 0, md := [] }).1] {}).2.2.obs).length = 1 := by
  rw [metrics_publish_once_after_receive "s" "p" [.metrics, .metrics] [] "t" { id := 0, md := [] } [] {} rfl]; rfl

/-- whatever a handler returns, the first message of its output has no publish mark and carries the handler's and
    publisher's names: fresh messages get them from `addHandlerContext`, the consumed message (pass-through) got them
    from the router's context decorator and only the SUBSCRIBE mark from the metrics subscriber decorators -/
theorem outputs_head (h pn sn : String) (i : Nat) (c : Msg) (o : Outcome) (m0 : Msg) (tl : List Msg)
    (hc : c.pubMark = false ∧ c.hName = h ∧ c.pName = pn) (hout : outputsOf h pn sn i c o = some (m0 :: tl)) :
    m0.pubMark = false ∧ m0.hName = h ∧ m0.pName = pn := by
  have hmem : ∀ outs, some outs = some (m0 :: tl) → m0 ∈ outs := fun _ e => Option.some.inj e ▸ List.mem_cons_self
  cases o with
  | err => cases hout
  | panic => cases hout
  | ok n => exact produced_ctx h pn sn _ n m0 (hmem _ hout)
  | pass pre post =>
    rcases List.mem_append.mp (hmem _ hout) with hm | hm
    · exact produced_ctx h pn sn _ pre m0 hm
    · rcases List.mem_cons.mp hm with rfl | hm
      · exact hc
      · exact produced_ctx h pn sn _ post m0 hm

/-- one message whose handler fails (error or panic) or succeeds without output: ONE handler observation with the
    right label, ONE subscriber count with the label of the settlement, nothing published, no publish observation -/
theorem router_step_no_output (h pn sn : String) (kp ks i : Nat) (o : Outcome) (w : RWorld) (outs : Option (List Msg))
    (hout : outputsOf h pn sn i (deliver sn (nSubMetrics (ks + 1)) ⟨i, [], none, false, false, h, pn, sn⟩).1 o = outs)
    (ho : outs = none ∨ outs = some []) :
    let w' := routerStep h pn sn kp (ks + 1) 1 i o w
    w'.hobs = w.hobs ++ [handlerObs h o] ∧ w'.settles = w.settles ++ [if outs.isSome then .ack else .nack] ∧
    w'.sobs = w.sobs ++ [⟨orElse h noHandler, orElse sn sn, outs.isSome⟩] ∧ w'.pw = w.pw := by
  have hd := (deliver_nSub sn ks ⟨i, [], none, false, false, h, pn, sn⟩ rfl).1
  rcases ho with rfl | rfl <;> simp [routerStep, hout, hd, subCounts, settleAndPublish]

example : (routerStep "h" "P" "S" 2 2 1 7 .panic {}).sobs = [⟨"h", "S", false⟩] ∧
    (routerStep "h" "P" "S" 2 2 1 7 .panic {}).hobs = [⟨"h", false⟩] := by
  obtain ⟨h1, _, h3, _⟩ := router_step_no_output "h" "P" "S" 2 1 7 .panic {} none rfl (.inl rfl)
  rw [h1, h3]; exact ⟨rfl, rfl⟩

/-- one message whose handler returns a non-empty output – fresh messages, the consumed message itself (pass-through),
    or a mix in any order: ONE handler observation `success=true` (whatever happens to the output afterwards), ONE
    Publish call of the wrapped publisher, ONE publish observation labelled with the result of that call, ONE
    subscriber count: `acked` iff the output was published. Decorators applied `kp + 1` / `ks + 1` times. -/
theorem router_step_output (h pn sn : String) (kp ks i : Nat) (o : Outcome) (m0 : Msg) (tl : List Msg) (w : RWorld)
    (hout : outputsOf h pn sn i (deliver sn (nSubMetrics (ks + 1)) ⟨i, [], none, false, false, h, pn, sn⟩).1 o =
      some (m0 :: tl)) :
    let w' := routerStep h pn sn (kp + 1) (ks + 1) 1 i o w
    let ok := !w.pw.script.headD false
    w'.hobs = w.hobs ++ [handlerObs h o] ∧ w'.settles = w.settles ++ [if ok then .ack else .nack] ∧
    w'.sobs = w.sobs ++ [⟨orElse h noHandler, orElse sn sn, ok⟩] ∧
    (∃ ms, w'.pw.calls = w.pw.calls ++ [⟨"out", ms⟩]) ∧
    w'.pw.obs = w.pw.obs ++ [⟨orElse h noHandler, orElse pn (pubStackName pn (nMetrics kp)), ok⟩] := by
  have hd := (deliver_nSub sn ks ⟨i, [], none, false, false, h, pn, sn⟩ rfl).1
  obtain ⟨hf, hh, hpn⟩ := outputs_head h pn sn i _ o m0 tl (deliver_keeps_pub sn _ _) hout
  have hp := metrics_publish_once_stacked pn kp "out" m0 tl w.pw hf
  obtain ⟨hres, hcalls⟩ := publish_nMetrics pn "out" (kp + 1) (m0 :: tl) w.pw
  simp only [routerStep, hout, hd, settleAndPublish, hp, hres, hh, hpn]
  cases w.pw.script.headD false <;> exact ⟨rfl, rfl, rfl, hcalls, rfl⟩

example : outputsOf "h" "P" "S" 3 (deliver "S" (nSubMetrics 2) ⟨3, [], none, false, false, "h", "P", "S"⟩).1 (.pass 0 1) =
    some [⟨3, [], none, false, true, "h", "P", "S"⟩, ⟨4500, [], none, false, false, "h", "P", "S"⟩] := by
  simp [outputsOf, produced, nSubMetrics, deliver]

/-- what the code does for any number of registrations: the middleware has no idempotency mark, EACH of the `km`
    applications observes every invocation once (so the histogram shows `km` samples per invocation, all with the
    same, correct label) -/
theorem metrics_handler_each_application (h pn sn : String) (kp ks km : Nat) (outs : List Outcome) (i : Nat) (w : RWorld) :
    (routerRun h pn sn kp ks km i outs w).hobs = w.hobs ++ outs.flatMap (fun o => List.replicate km (handlerObs h o)) := by
  induction outs generalizing i w with
  | nil => exact (List.append_nil _).symm
  | cons o rest ih =>
    show (routerRun h pn sn kp ks km (i + 1) rest (routerStep h pn sn kp ks km i o w)).hobs = _
    rw [ih, List.flatMap_cons, ← List.append_assoc]; rfl

/-- **metrics_handler_once** (guarded, finding `handler-middleware-applied-twice` open): with the middleware
    registered ONCE (`km = 1`), over any sequence of handler outcomes (success with or without output, error, panic,
    output that cannot be published) and any failure script of the publisher, every invocation is observed exactly
    once, in order, labelled `success=true` exactly for the invocations that returned nil without panicking – a publish
    failure afterwards does not change the handler's label.

    Full statement (does NOT hold, see `handler_applied_twice_witness`): the same for every `km ≥ 1`, i.e.
    `(routerRun h pn sn kp ks km i outs w).hobs = w.hobs ++ outs.map (handlerObs h)` also when the middleware (or
    `AddPrometheusRouterMetrics`) is applied twice.  Missing: an "already observed" mark like the ones the publisher and
    subscriber decorators keep in the message context. -/
theorem metrics_handler_once_partial (h pn sn : String) (kp ks : Nat) (outs : List Outcome) (i : Nat) (w : RWorld) :
    (routerRun h pn sn kp ks 1 i outs w).hobs = w.hobs ++ outs.map (handlerObs h) := by
  rw [metrics_handler_each_application, List.map_eq_flatMap]; rfl

/-- **overlapping invocations**: every invocation is labelled by its OWN outcome only (the label set is built per
    call, nothing is shared between calls), so in whatever order the invocations of a handler end – i.e. however they
    overlap – the observations are the same up to order: per label the same counts -/
theorem metrics_handler_order_independent (h pn sn : String) (kp ks : Nat) (outs outs' : List Outcome) (i j : Nat)
    (hp : outs.Perm outs') :
    (routerRun h pn sn kp ks 1 i outs {}).hobs.Perm (routerRun h pn sn kp ks 1 j outs' {}).hobs := by
  rw [metrics_handler_once_partial, metrics_handler_once_partial]
  simpa using hp.map (handlerObs h)

example : [Outcome.ok 0, .err, .panic].Perm [.panic, .ok 0, .err] := by decide

example : (routerRun "h" "P" "S" 1 1 2 0 [.ok 0, .panic] {}).hobs =
    [⟨"h", true⟩, ⟨"h", true⟩, ⟨"h", false⟩, ⟨"h", false⟩] := by
  rw [metrics_handler_each_application]; rfl

/-- **finding `handler-middleware-applied-twice`**: with the middleware registered twice ONE invocation leaves TWO
    observations – the unguarded `metrics_handler_once` fails for `km = 2` -/
theorem handler_applied_twice_witness :
    (routerRun "h" "P" "S" 1 1 2 0 [.ok 0] {}).hobs = [⟨"h", true⟩, ⟨"h", true⟩] ∧
    (routerRun "h" "P" "S" 1 1 2 0 [.ok 0] {}).hobs ≠ [Outcome.ok 0].map (handlerObs "h") ∧
    (routerRun "h" "P" "S" 1 1 2 0 [.ok 0] {}).settles.length = 1 := by
  rw [metrics_handler_each_application]
  refine ⟨rfl, by decide, ?_⟩
  simp [routerRun, routerStep]

/-- what `n` messages add to the three metrics (the shape of `router_metrics_exact`) -/
def Counts (w w' : RWorld) (n : Nat) : Prop :=
  w'.hobs.length = w.hobs.length + n ∧ w'.settles.length = w.settles.length + n ∧
  w'.sobs.length = w.sobs.length + n ∧
  (w'.sobs.filter (·.acked)).length + (w.settles.filter (· = .ack)).length =
    (w.sobs.filter (·.acked)).length + (w'.settles.filter (· = .ack)).length ∧
  w'.pw.obs.length + w.pw.calls.length = w.pw.obs.length + w'.pw.calls.length

theorem counts_one {w w' : RWorld} {x : HObs} {a b : String} (acked : Bool) (h1 : w'.hobs = w.hobs ++ [x])
    (h2 : w'.settles = w.settles ++ [if acked then .ack else .nack]) (h3 : w'.sobs = w.sobs ++ [⟨a, b, acked⟩])
    (h4 : w'.pw.obs.length + w.pw.calls.length = w.pw.obs.length + w'.pw.calls.length) : Counts w w' 1 := by
  unfold Counts
  rw [h1, h2, h3]
  cases acked <;> simp [List.filter_append] <;> omega

theorem grow_then {a b c n : Nat} (h : b = a + 1) (h' : c = b + n) : c = a + (n + 1) := by
  rw [h', h, Nat.add_assoc, Nat.add_comm 1]

/-- `x` and `y` grow by the same amount over two stretches, hence over both -/
theorem level_then {x y x1 y1 x2 y2 : Nat} (h : x1 + y = x + y1) (h' : x2 + y1 = x1 + y2) : x2 + y = x + y2 := by
  omega

theorem counts_then {w w1 w2 : RWorld} {n : Nat} (h : Counts w w1 1) (h' : Counts w1 w2 n) : Counts w w2 (n + 1) := by
  obtain ⟨a1, a2, a3, a4, a5⟩ := h
  obtain ⟨b1, b2, b3, b4, b5⟩ := h'
  exact ⟨grow_then a1 b1, grow_then a2 b2, grow_then a3 b3, level_then a4 b4, level_then a5 b5⟩

/-- one message through the Router, decorators applied once or several times -/
theorem routerStep_counts (h pn sn : String) (kp ks i : Nat) (o : Outcome) (w : RWorld) :
    Counts w (routerStep h pn sn (kp + 1) (ks + 1) 1 i o w) 1 := by
  have no_out := fun outs hout ho => by
    obtain ⟨h1, h2, h3, h4⟩ := router_step_no_output h pn sn (kp + 1) ks i o w outs hout ho
    exact counts_one _ h1 h2 h3 (by rw [h4])
  rcases ho : outputsOf h pn sn i (deliver sn (nSubMetrics (ks + 1)) ⟨i, [], none, false, false, h, pn, sn⟩).1 o
    with _ | _ | ⟨m0, tl⟩
  · exact no_out _ ho (.inl rfl)
  · exact no_out _ ho (.inr rfl)
  · obtain ⟨h1, h2, h3, ⟨ms, h4⟩, h5⟩ := router_step_output h pn sn kp ks i o m0 tl w ho
    exact counts_one _ h1 h2 h3 (by simp only [h4, h5, List.length_append, List.length_singleton]; omega)

/-- the three metrics over a whole run, decorators applied once or several times: as many subscriber counts as
    messages, `acked` ones as many as acked messages; as many publish observations as calls of the wrapped
    publisher; as many handler observations as invocations -/
theorem router_metrics_exact (h pn sn : String) (kp ks : Nat) (outs : List Outcome) (i : Nat) (w : RWorld) :
    let w' := routerRun h pn sn (kp + 1) (ks + 1) 1 i outs w
    w'.hobs.length = w.hobs.length + outs.length ∧
    w'.settles.length = w.settles.length + outs.length ∧
    w'.sobs.length = w.sobs.length + outs.length ∧
    (w'.sobs.filter (·.acked)).length + (w.settles.filter (· = .ack)).length =
      (w.sobs.filter (·.acked)).length + (w'.settles.filter (· = .ack)).length ∧
    w'.pw.obs.length + w.pw.calls.length = w.pw.obs.length + w'.pw.calls.length := by
  induction outs generalizing i w with
  | nil => exact ⟨rfl, rfl, rfl, rfl, rfl⟩
  | cons o rest ih => exact counts_then (routerStep_counts h pn sn kp ks i o w) (ih (i + 1) _)

example : (routerRun "h" "P" "S" 2 2 1 0 [.ok 1, .panic, .pass 0 1, .err] { pw := { script := [false, true] } }).hobs =
    [⟨"h", true⟩, ⟨"h", false⟩, ⟨"h", true⟩, ⟨"h", false⟩] := by
  rw [metrics_handler_once_partial]; rfl

end Wm.Decor
