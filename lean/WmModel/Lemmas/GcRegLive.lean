import WmModel.Lemmas.GcRegClose
namespace Wm.GcReg

variable {s s' : St} {a : Action} {i : Nat} {old new : Th} {l : List Th} {logNil logNil' : Bool} {wg wg' : Nat}

/-- subscription `sid` of topic `t` has its unsubscribe goroutine, which has not finished -/
def TdLive (l : List Th) (t sid : Nat) : Prop :=
  ∃ (j : Nat) (pc : TPc), l[j]? = some (Th.td t sid pc) ∧ pc ≠ TPc.done

def LiveOn (l : List Th) (logNil : Bool) (wg : Nat) : Prop :=
  (∀ (i t sid : Nat), l[i]? = some (Th.sub t sid UPc.register) → TdLive l t sid) ∧
  (logNil = true → wg = 0)

/-- a Subscribe inside its critical region has a live unsubscribe goroutine; the backlog is dropped only when no
    subscription is left -/
def LiveOk (s : St) : Prop := LiveOn s.ths s.logNil s.wg

theorem live_init (cfg : Cfg) : LiveOk (init cfg) := by simp [LiveOk, LiveOn, init]

/-- the goroutine is still live after thread `i` became `new`, provided that thread, if it was the goroutine, still is -/
theorem tdLive_set {t sid : Nat} (h : TdLive l t sid)
    (fwd : ∀ pc, l[i]? = some (Th.td t sid pc) → pc ≠ TPc.done → ∃ pc', new = Th.td t sid pc' ∧ pc' ≠ TPc.done) :
    TdLive (l.set i new) t sid := by
  obtain ⟨j, pc, hj, hpc⟩ := h
  by_cases hji : j = i
  · subst hji
    obtain ⟨pc', e, hpc'⟩ := fwd pc hj hpc
    exact ⟨j, pc', by rw [e]; exact List.getElem?_set_self (List.getElem?_eq_some_iff.mp hj).1, hpc'⟩
  · exact ⟨j, pc, set_get_of_ne _ _ _ _ _ hji hj, hpc⟩

theorem tdLive_append {t sid : Nat} (h : TdLive l t sid) : TdLive (l ++ [new]) t sid :=
  h.imp fun _ h => h.imp fun _ h => ⟨append_get_of_get _ _ _ _ h.1, h.2⟩

theorem live_set (h : LiveOn l logNil wg) (hn : atRegister new = false) (hz : logNil' = true → wg' = 0)
    (fwd : ∀ t sid pc, l[i]? = some (Th.td t sid pc) → pc ≠ TPc.done → ∃ pc', new = Th.td t sid pc' ∧ pc' ≠ TPc.done) :
    LiveOn (l.set i new) logNil' wg' :=
  ⟨fun k t sid hk => tdLive_set (h.1 k t sid (reg_back_set hn hk)) (fwd t sid), hz⟩

theorem live_set_other (h : LiveOn l logNil wg) (hold : l[i]? = some old)
    (ho : isTd old = false) (hn : atRegister new = false) : LiveOn (l.set i new) logNil wg :=
  live_set h hn h.2 (fun _ _ _ hj _ => by rw [hold] at hj; injection hj with hj; subst hj; cases ho)

theorem live_td_move {t sid : Nat} {pc0 pc1 : TPc} (h : LiveOn l logNil wg)
    (hold : l[i]? = some (Th.td t sid pc0)) (h1 : pc1 ≠ TPc.done) : LiveOn (l.set i (Th.td t sid pc1)) logNil wg :=
  live_set h rfl h.2
    (fun _ _ _ hj _ => by rw [hold] at hj; injection hj with hj; injection hj with e1 e2; subst e1 e2; exact ⟨pc1, rfl, h1⟩)

/-- the writer (`old`) moves to `new`: by `W1` no Subscribe other than itself is at `register` -/
theorem live_set_writer {ann : Option Nat} (hw1 : W1On l ann) (hold : l[i]? = some old)
    (hw : holdsW old = true) (hn : atRegister new = false) (hz : logNil' = true → wg' = 0) : LiveOn (l.set i new) logNil' wg' := by
  refine ⟨fun k t sid hk => ?_, hz⟩
  rcases get_set_cases _ _ _ _ _ hk with ⟨_, hth⟩ | ⟨hki, hk'⟩
  · subst hth; cases hn
  · exact absurd (w1_unique hw1 hk' rfl hold hw) hki

theorem live_append (h : LiveOn l logNil wg) (hn : atRegister new = false) : LiveOn (l ++ [new]) logNil wg :=
  ⟨fun k t sid hk => tdLive_append (h.1 k t sid (reg_back_append hn hk)), h.2⟩

theorem live_step (hw1 : W1 s) (hcl : CloseOk s) (h : LiveOk s) (hs : Step s a s') :
    LiveOk s' := by
  cases hs with
  | newPub | newPubNested | newSub | newClose => exact live_append h rfl
  | cancel | senderDone | panic => exact h
  | subTlock i t hth =>
    -- the goroutine just started is the witness for the Subscribe now at `register`; there is no other (`W1`)
    refine ⟨fun k t' sid' hk => ?_, h.2⟩
    rcases get_append_cases _ _ _ _ hk with ⟨_, hk'⟩ | ⟨_, hth'⟩
    · rcases get_set_cases _ _ _ _ _ hk' with ⟨_, hth'⟩ | ⟨hki, hk''⟩
      · injection hth' with e1 e2 _
        subst e1 e2
        refine ⟨s.ths.length, .idle, ?_, nofun⟩
        rw [List.getElem?_append_right (Nat.le_of_eq List.length_set), List.length_set, Nat.sub_self]; rfl
      · exact absurd (w1_unique hw1 hk'' rfl hth rfl) hki
    · cases hth'
  | thread hth hm =>
    cases hm with
    | subStart _ hncl =>
      -- a new subscription is admitted only while the Pub/Sub is open, hence the backlog is still there
      refine live_set h rfl (fun hx => ?_) (fun _ _ _ hj _ => by rw [hth] at hj; cases hj)
      rw [hcl.2.2.2 hx] at hncl; cases hncl
    | subRegister => exact live_set_writer hw1 hth rfl rfl h.2
    | tdRemove _ hwg => exact live_set_writer hw1 hth rfl rfl (fun hx => absurd (h.2 hx) hwg)
    | tdIdle | tdSubClosed | tdAnnounce | tdDrain | tdTlock => exact live_td_move h hth nofun
    | closeWait hwg => exact live_set h rfl (fun _ => hwg) (fun _ _ _ hj _ => by rw [hth] at hj; cases hj)
    | _ => exact live_set_other h hth rfl rfl

end Wm.GcReg
