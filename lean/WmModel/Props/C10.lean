/-
  C10 – Router lifecycle: Running, RunHandlers, Stop and self-close.  Theorems over every reachable state of RouterLife
  (WmModel/RouterLife.lean): any number of handlers added before or after Run, any number of RunHandlers / Stop / Close
  callers, every interleaving.  Helper lemmas: WmModel/Lemmas/RouterLife*.lean; `Old` witnesses: Props/C10Old.lean.
-/
import WmModel.Lemmas.RouterLifeCore
import WmModel.Lemmas.RouterLifeRun
namespace Wm.RouterLife
open Wm.Lts

/-- needs D7 only because the Run invariant `RunOk` also says that nothing panics -/
theorem running_after_all_subscribed_of_d7 (fx : Fix) (hfx : fx.d7 = true) (s : St) (h : Reach (sys fx) s)
    (hr : s.running = true) :
    ∀ y ∈ s.hs, y.preRun = true → y.started = true ∧ y.subCalls = 1 := by
  have hrun := reach_run fx hfx s h
  have hpast : s.run.pastRh = true := by
    rcases hrun.r3 hr with h1 | h1 | h1 <;> rw [h1] <;> rfl
  intro y hy hpre
  have hst := hrun.r2 hpast y hy hpre
  exact ⟨hst, ((reach_life fx s h).all y hy).subscribed hst⟩

/-- **Running() is closed only after every registered handler holds its subscription**: whenever `running` is closed,
    every handler that was registered before Run was called has been started, and its subscriber has seen exactly one
    Subscribe call -/
theorem running_after_all_subscribed (s : St) (h : Reach (sys allFixed) s) (hr : s.running = true) :
    ∀ y ∈ s.hs, y.preRun = true → y.started = true ∧ y.subCalls = 1 :=
  running_after_all_subscribed_of_d7 allFixed rfl s h hr

/-- **RunHandlers starts each handler exactly once however often it is called**: in every reachable state (any `Fix`)
    a handler's subscriber has seen at most one Subscribe call, exactly one once the handler is started; and the
    Subscribe step is not enabled for a started handler -/
theorem runhandlers_once (fx : Fix) (s : St) (h : Reach (sys fx) s) :
    (∀ y ∈ s.hs, y.subCalls ≤ 1 ∧ (y.started = true → y.subCalls = 1)) ∧
    (∀ (i : Nat) (y : Handler), s.hs[i]? = some y → y.started = true → act fx s (.rhSub i) = none) := by
  have hlife := reach_life fx s h
  constructor
  · intro y hy
    have hok := hlife.all y hy
    exact ⟨by rw [hok.l3]; split <;> simp, hok.subscribed⟩
  · intro i y hy hst
    refine act_none_of fun s' hs => ?_
    cases hs with
    | rhSub _ hx hns => rw [hy] at hx; cases hx; rw [hst] at hns; cases hns

/-- needs D7 only, for `stopFn`/`stopped` being set wherever `Started()` is closed -/
theorem runhandlers_nil_means_all_started_of_d7 (fx : Fix) (hfx : fx.d7 = true) (s : St) (h : Reach (sys fx) s)
    (s' : St) (ha : act fx s .rhEnd = some s') :
    ∀ y ∈ s'.hs, y.started = true ∧ y.startedCh = true ∧ y.stopSet = true ∧ y.subCalls = 1 := by
  have hlife := reach_life fx s h
  cases step_of_act ha with
  | rhEnd _ hall =>
    intro y hy
    have hok := hlife.all y hy
    have hst := hlife.all_started hall y hy
    have hch := hok.l11 hst
    exact ⟨hst, hch, hok.l2 hfx hch, hok.subscribed hst⟩

/-- **a RunHandlers call that returns nil has started every handler added so far**: its last step is only enabled when no
    registered handler is left unstarted, and then every handler has `Started()` closed, `stopFn`/`stopped` set and exactly
    one successful Subscribe -/
theorem runhandlers_nil_means_all_started (s : St) (h : Reach (sys allFixed) s) (s' : St)
    (ha : act allFixed s .rhEnd = some s') :
    ∀ y ∈ s'.hs, y.started = true ∧ y.startedCh = true ∧ y.stopSet = true ∧ y.subCalls = 1 :=
  runhandlers_nil_means_all_started_of_d7 allFixed rfl s h s' ha

/-- **a failed start is retried**: when a decorator or Subscribe fails, RunHandlers returns the error having touched nothing
    of that handler – it is still not started, so the Subscribe step of the next RunHandlers call is enabled for it -/
theorem runhandlers_error_is_retried (fx : Fix) (s s' : St) (i : Nat) (ha : act fx s (.rhSubFail i) = some s') :
    s'.hs = s.hs ∧ s'.hl = .free ∧
    ∃ y, s'.hs[i]? = some y ∧ y.started = false ∧ ∀ v, (act fx { s' with hl := .rh v none } (.rhSub i)).isSome = true := by
  cases step_of_act ha with
  | rhSubFail _ hy hst hrm => exact ⟨rfl, rfl, _, hy, hst, fun _ => Step.enabled (.rhSub rfl hy hst hrm)⟩

/-- needs D7 only: in the old order a Stop between the two assignments panics (`Old.started_before_stopfn_witness`) -/
theorem started_implies_stoppable_of_d7 (fx : Fix) (hfx : fx.d7 = true) (s : St) (h : Reach (sys fx) s)
    (i : Nat) (y : Handler) (hy : s.hs[i]? = some y) :
    (y.startedCh = true → y.started = true ∧ y.stopSet = true ∧
        ∃ s', act fx s (.stop i) = some s' ∧ s'.panicked = false) ∧
    s.panicked = false ∧ (y.stoppedCh = true ↔ y.loop = .done) := by
  have hok := (reach_life fx s h).all y (List.mem_of_getElem? hy)
  have hrun := reach_run fx hfx s h
  refine ⟨fun hst => ?_, hrun.r4, hok.l5.1⟩
  have ⟨h1, h2⟩ := hok.stoppable hfx hst
  exact ⟨h1, h2, _, act_of_step (.stop hy hst h1 h2), hrun.r4⟩

/-- **Once Started() is closed, Stop() and Stopped() are usable**: `startedCh` closed implies the `started` flag, `stopFn`
    and `stopped` are set (fix D7); Stop is then enabled and does not panic; nothing ever panics; and `stopped` is
    closed exactly when the handler's goroutine has finished -/
theorem started_implies_stoppable (s : St) (h : Reach (sys allFixed) s) (i : Nat) (y : Handler)
    (hy : s.hs[i]? = some y) :
    (y.startedCh = true → y.started = true ∧ y.stopSet = true ∧
        ∃ s', act allFixed s (.stop i) = some s' ∧ s'.panicked = false) ∧
    s.panicked = false ∧ (y.stoppedCh = true ↔ y.loop = .done) :=
  started_implies_stoppable_of_d7 allFixed rfl s h i y hy

/-- needs D7 only, to exclude the panicking branch of Stop -/
theorem stop_isolated_of_d7 (fx : Fix) (hfx : fx.d7 = true) (s : St) (h : Reach (sys fx) s) (s' : St) (i : Nat)
    (ha : act fx s (.stop i) = some s') :
    (∀ j, j ≠ i → s'.hs[j]? = s.hs[j]?) ∧
    (∃ y, s.hs[i]? = some y ∧ s'.hs[i]? = some { y with ctxDone := true }) ∧
    s'.msgs = s.msgs ∧ s'.closed = s.closed ∧ s'.closing = s.closing ∧ s'.extCancel = s.extCancel ∧
    s'.runCancel = s.runCancel ∧ s'.hl = s.hl ∧ s'.cl = s.cl ∧ s'.closers = s.closers ∧ s'.run = s.run ∧
    s'.panicked = false := by
  have hp := (reach_run fx hfx s h).r4
  cases step_of_act ha with
  | stop hy =>
    exact ⟨fun j hj => getElem?_modify_ne _ _ _ _ fun hc => hj hc.symm, ⟨_, hy, getElem?_modify_self _ _ _ _ hy⟩,
      rfl, rfl, rfl, rfl, rfl, rfl, rfl, rfl, rfl, hp⟩
  | stopPanic hy hch hg =>
    exact absurd (((reach_life fx s h).all _ (List.mem_of_getElem? hy)).stoppable hfx hch) hg

/-- **Stop ends that handler only**: a Stop step changes nothing but the context of the stopped handler – every other
    handler, every message, the locks, the close protocol and Run are exactly as before (and it does not panic) -/
theorem stop_isolated (s : St) (h : Reach (sys allFixed) s) (s' : St) (i : Nat)
    (ha : act allFixed s (.stop i) = some s') :
    (∀ j, j ≠ i → s'.hs[j]? = s.hs[j]?) ∧
    (∃ y, s.hs[i]? = some y ∧ s'.hs[i]? = some { y with ctxDone := true }) ∧
    s'.msgs = s.msgs ∧ s'.closed = s.closed ∧ s'.closing = s.closing ∧ s'.extCancel = s.extCancel ∧
    s'.runCancel = s.runCancel ∧ s'.hl = s.hl ∧ s'.cl = s.cl ∧ s'.closers = s.closers ∧ s'.run = s.run ∧
    s'.panicked = false :=
  stop_isolated_of_d7 allFixed rfl s h s' i ha

/-- needs D7 only, through `stop_isolated_of_d7` -/
theorem stop_ends_handler_of_d7 (fx : Fix) (hfx : fx.d7 = true) (s : St) (h : Reach (sys fx) s) (s' : St) (i : Nat)
    (ha : act fx s (.stop i) = some s') :
    ∃ y', s'.hs[i]? = some y' ∧ ctxOf s' y' = true ∧
      (y'.hc = .sel → (act fx s' (.hcCtx i)).isSome = true) ∧
      (y'.pump ≠ .off → y'.innerClosed = false → (act fx s' (.innerCtx i)).isSome = true) := by
  obtain ⟨_, ⟨y, hy, hy'⟩, _⟩ := stop_isolated_of_d7 fx hfx s h s' i ha
  have hctx : ctxOf s' { y with ctxDone := true } = true := by simp [ctxOf]
  exact ⟨_, hy', hctx, fun hsel => hcCtx_enabled hy' hsel hctx, fun hp hic => (Step.innerCtx hy' hp hctx hic).enabled⟩

/-- after Stop the stopped handler's context is done, so its subscription may end (`innerCtx`) and its handleClose
    goroutine can leave its select; the other handlers' steps are untouched by `stop_isolated` -/
theorem stop_ends_handler (s : St) (h : Reach (sys allFixed) s) (s' : St) (i : Nat)
    (ha : act allFixed s (.stop i) = some s') :
    ∃ y', s'.hs[i]? = some y' ∧ ctxOf s' y' = true ∧
      (y'.hc = .sel → (act allFixed s' (.hcCtx i)).isSome = true) ∧
      (y'.pump ≠ .off → y'.innerClosed = false → (act allFixed s' (.innerCtx i)).isSome = true) :=
  stop_ends_handler_of_d7 allFixed rfl s h s' i ha

/-- uses D5 through `CoreOk`: the waiter holds the lock only after `handlersWg.Wait()`, which it starts on a closed
    router -/
theorem other_handlers_keep_dispatching_of_d5 (fx : Fix) (hfx : fx.d5 = true) (s : St) (h : Reach (sys fx) s)
    (hc : s.closed = false) (j : Nat) (y : Handler) (m : Nat) (hy : s.hs[j]? = some y) (hl : y.loop = .hold m) :
    (act fx s (.dispatch j)).isSome = true := by
  have hcore := reach_core fx hfx s h
  have hwb : s.wB ≠ .held := fun hb => by
    have := hcore.a1 (hcore.b (by rw [hb]; nofun))
    rw [hc] at this; cases this
  exact (Step.dispatch hy hl hwb).enabled

/-- **the other handlers keep processing**: `runningHandlersWgLock` is only ever held by the waiter of Router.Close, so as
    long as the router is not closed every receive loop that has a message in its hand can dispatch it – whatever was
    stopped, whatever handler functions are still busy -/
theorem other_handlers_keep_dispatching (s : St) (h : Reach (sys allFixed) s) (hc : s.closed = false)
    (j : Nat) (y : Handler) (m : Nat) (hy : s.hs[j]? = some y) (hl : y.loop = .hold m) :
    (act allFixed s (.dispatch j)).isSome = true :=
  other_handlers_keep_dispatching_of_d5 allFixed rfl s h hc j y m hy hl

/-- the tail of a handler's goroutine (publisher Close, `handlersWg.Done()`, removal, `close(stopped)`) waits for no
    invocation and for no other handler: each step is enabled as soon as the previous one is done (the removal only needs
    `handlersLock`) -/
theorem loop_tail_waits_for_nobody (fx : Fix) (s : St) (i : Nat) (y : Handler) (hy : s.hs[i]? = some y) :
    (y.loop = .idle → y.pump = .done → (act fx s (.loopEnd i)).isSome = true) ∧
    (y.loop = .pubClose → (act fx s (.pubClose i)).isSome = true) ∧
    (y.loop = .wgDone → (act fx s (.wgDone i)).isSome = true) ∧
    (y.loop = .delete → s.hl = .free → (act fx s (.loopDelete i)).isSome = true) := by
  exact ⟨fun h1 h2 => (Step.loopEnd hy h1 h2).enabled, fun h1 => (Step.pubClose hy h1).enabled,
    fun h1 => (Step.wgDone hy h1).enabled, fun h1 h2 => (Step.loopDelete hy h1 h2).enabled⟩

/-- needs D7 only because `RunOk` also says that nothing panics -/
theorem failed_run_leaves_running_open_of_d7 (fx : Fix) (hfx : fx.d7 = true) (s : St) (h : Reach (sys fx) s)
    (hf : s.run = .failed) :
    s.running = false ∧ s.isRunning = true ∧ act fx s .runRunning = none := by
  have hrun := reach_run fx hfx s h
  refine ⟨?_, hrun.r1.mpr (by rw [hf]; nofun), act_none_of fun s' hs => ?_⟩
  · cases hr : s.running with
    | false => rfl
    | true => rcases hrun.r3 hr with h1 | h1 | h1 <;> rw [hf] at h1 <;> cases h1
  · cases hs with
    | runRunning h1 => rw [hf] at h1; cases h1

/-- **a start-up that failed leaves Running() open**: when Run has returned the error of its RunHandlers call, `running` is
    not closed (and never will be by that Run); the router still counts as started for the re-entry guard -/
theorem failed_run_leaves_running_open (s : St) (h : Reach (sys allFixed) s) (hf : s.run = .failed) :
    s.running = false ∧ s.isRunning = true ∧ act allFixed s .runRunning = none :=
  failed_run_leaves_running_open_of_d7 allFixed rfl s h hf

/-- **Close does not cut into a start-up**: the step in which Close marks the router closed and closes
    `closingInProgressCh` is only enabled while nobody holds `handlersLock` – a RunHandlers call (Run's own or a later one) that
    is between two handlers finishes first, so every handler it was going to start is started before any handleClose reacts -/
theorem close_signals_only_outside_runhandlers (fx : Fix) (s s' : St) (k : Nat) (ha : act fx s (.closeHL k) = some s') :
    s.hl = .free ∧ (s.closed = false → s'.closing = true ∧ s'.hl = .closer k) := by
  cases step_of_act ha with
  | closeHLAgain _ hfree hc => exact ⟨hfree, fun hn => by rw [hc] at hn; cases hn⟩
  | closeHL _ hfree => exact ⟨hfree, fun _ => ⟨rfl, rfl⟩⟩

/-- needs D7 only because `RunOk` also says that nothing panics -/
theorem second_run_errors_of_d7 (fx : Fix) (hfx : fx.d7 = true) (s : St) (h : Reach (sys fx) s) (hr : s.run ≠ .idle) :
    act fx s .runCall = some { s with runErrs := s.runErrs + 1 } :=
  act_of_step (.runCallAgain ((reach_run fx hfx s h).r1.mpr hr))

/-- **a second Run returns an error**: from the first Run call on, a Run call only counts an error return and changes
    nothing else -/
theorem second_run_errors (s : St) (h : Reach (sys allFixed) s) (hr : s.run ≠ .idle) :
    act allFixed s .runCall = some { s with runErrs := s.runErrs + 1 } :=
  second_run_errors_of_d7 allFixed rfl s h hr

/-! non-vacuity: two handlers registered before Run, one added later and started by the second of three RunHandlers
    calls; Running() closed; handler 0 stopped: its loop ends, the others are untouched -/
def demoLife : List Action :=
  [.addHandler, .addHandler, .runCall, .runWatch, .runRh, .rhSub 1, .rhStep, .rhStep, .rhSpawn, .rhSub 0, .rhStep, .rhStep,
   .rhSpawn, .rhEnd, .runRunning, .rhCall, .rhEnd, .addHandler, .rhCall, .rhSub 2, .rhStep, .rhStep, .rhSpawn, .rhEnd,
   .rhCall, .rhEnd, .runCall, .stop 0, .hcCtx 0, .hcStop 0, .innerCtx 0, .pumpEnd 0, .loopEnd 0, .pubClose 0, .wgDone 0,
   .loopDelete 0, .emit 1, .pumpOut 1, .dispatch 1, .hStart 0]

example : ∃ s, exec (sys allFixed) init demoLife = some s ∧ s.running = true ∧ s.runErrs = 1 ∧ s.closed = false ∧
    s.hs.map (·.subCalls) = [1, 1, 1] ∧ s.hs.map (·.preRun) = [true, true, false] ∧
    s.hs.map (·.stoppedCh) = [true, false, false] ∧ s.hs.map (·.subCloseCalls) = [0, 0, 0] ∧
    s.msgs = [⟨1, .inH, .none⟩] :=
  ⟨_, rfl, by decide, by decide, by decide, by decide, by decide, by decide, by decide, by decide⟩

end Wm.RouterLife
