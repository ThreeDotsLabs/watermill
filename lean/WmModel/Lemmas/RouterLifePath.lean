/-
  Message-path invariant of RouterLife: a message in the pump's hand / in the loop's hand is exactly the one the pump /
  the loop holds; a message is settled iff its invocation has finished.
-/
import WmModel.Lemmas.RouterLifeHandler
namespace Wm.RouterLife
open Wm.Lts

/-- the message in the pump's hand -/
def Pump.held : Pump → Option Nat
  | .hold m => some m
  | _ => none

/-- the message in the loop's hand -/
def Loop.held : Loop → Option Nat
  | .hold m => some m
  | _ => none

/-- the messages at stage `st` are exactly the ones some handler has in the hand `f` (its pump's, its loop's), and that
    handler is the one the message was emitted for -/
structure Hand (f : Handler → Option Nat) (st : Stage) (hs : List Handler) (msgs : List Msg) : Prop where
  holder : ∀ (m : Nat) (x : Msg), msgs[m]? = some x → x.stage = st → ∃ y, hs[x.h]? = some y ∧ f y = some m
  held : ∀ (i : Nat) (y : Handler) (m : Nat), hs[i]? = some y → f y = some m →
           ∃ x, msgs[m]? = some x ∧ x.h = i ∧ x.stage = st

namespace Hand
variable {f : Handler → Option Nat} {st : Stage} {hs : List Handler} {msgs : List Msg} {i m : Nat}
  {g : Handler → Handler} {u : Msg → Msg} {y : Handler} {x : Msg}

theorem nil : Hand f st [] [] :=
  ⟨fun m x hm => by simp at hm, fun i y m hi => by simp at hi⟩

/-- a handler changes, not what it has in this hand -/
theorem modifyH (h : Hand f st hs msgs) (hf : ∀ y, hs[i]? = some y → f (g y) = f y) :
    Hand f st (hs.modify i g) msgs := by
  refine ⟨fun m x hm hst => ?_, fun j z m hj hz => ?_⟩
  · obtain ⟨y, hy, hfy⟩ := h.holder m x hm hst
    by_cases hi : i = x.h
    · subst hi; exact ⟨g y, getElem?_modify_self _ _ _ _ hy, (hf y hy).trans hfy⟩
    · exact ⟨y, by rw [getElem?_modify_ne _ _ _ _ hi]; exact hy, hfy⟩
  · rcases getElem?_modify_some _ _ _ _ _ hj with ⟨rfl, y, hy, rfl⟩ | ⟨_, hj'⟩
    · exact h.held i y m hy ((hf y hy).symm.trans hz)
    · exact h.held j z m hj' hz

/-- a message that is not at this stage moves to another such stage -/
theorem modifyM (h : Hand f st hs msgs) (hx : msgs[m]? = some x) (h1 : x.stage ≠ st) (h2 : (u x).stage ≠ st) :
    Hand f st hs (msgs.modify m u) := by
  refine ⟨fun j z hj hst => ?_, fun i y j hi hy => ?_⟩
  · by_cases hmj : m = j
    · subst hmj; rw [getElem?_modify_self _ _ _ _ hx] at hj; cases hj; exact absurd hst h2
    · rw [getElem?_modify_ne _ _ _ _ hmj] at hj; exact h.holder j z hj hst
  · obtain ⟨z, hz, hzi, hzs⟩ := h.held i y j hi hy
    have hmj : m ≠ j := fun e => by subst e; rw [hx] at hz; cases hz; exact h1 hzs
    exact ⟨z, by rw [getElem?_modify_ne _ _ _ _ hmj]; exact hz, hzi, hzs⟩

theorem appendH (h : Hand f st hs msgs) {new : Handler} (hn : f new = none) : Hand f st (hs ++ [new]) msgs := by
  refine ⟨fun m x hm hst => ?_, fun j z m hj hz => ?_⟩
  · obtain ⟨y, hy, hfy⟩ := h.holder m x hm hst
    exact ⟨y, append_get_of_get _ _ _ _ hy, hfy⟩
  · rcases get_append_cases _ _ _ _ hj with ⟨_, hj⟩ | ⟨_, rfl⟩
    · exact h.held j z m hj hz
    · rw [hn] at hz; cases hz

theorem appendM (h : Hand f st hs msgs) {x0 : Msg} (h0 : x0.stage ≠ st) : Hand f st hs (msgs ++ [x0]) := by
  refine ⟨fun m x hm hst => ?_, fun j z m hj hz => ?_⟩
  · rcases get_append_cases _ _ _ _ hm with ⟨_, hm⟩ | ⟨_, rfl⟩
    · exact h.holder m x hm hst
    · exact absurd hst h0
  · obtain ⟨x, hx, hxi, hxs⟩ := h.held j z m hj hz
    exact ⟨x, append_get_of_get _ _ _ _ hx, hxi, hxs⟩

/-- handler `i` takes the message that is just being emitted for it into its empty hand -/
theorem emit (h : Hand f st hs msgs) (hy : hs[i]? = some y) (hfy : f y = none) (hg : f (g y) = some msgs.length)
    (z : Stl) : Hand f st (hs.modify i g) (msgs ++ [⟨i, st, z⟩]) := by
  refine ⟨fun m x hm hst => ?_, fun j w m hj hw => ?_⟩
  · rcases get_append_cases _ _ _ _ hm with ⟨_, hm⟩ | ⟨rfl, rfl⟩
    · obtain ⟨w, hw, hfw⟩ := h.holder m x hm hst
      have hi : i ≠ x.h := fun e => by subst e; rw [hy] at hw; cases hw; rw [hfy] at hfw; cases hfw
      exact ⟨w, by rw [getElem?_modify_ne _ _ _ _ hi]; exact hw, hfw⟩
    · exact ⟨g y, getElem?_modify_self _ _ _ _ hy, hg⟩
  · rcases getElem?_modify_some _ _ _ _ _ hj with ⟨rfl, y', hy', rfl⟩ | ⟨_, hj'⟩
    · rw [hy] at hy'; cases hy'; rw [hg] at hw; cases hw
      exact ⟨_, List.getElem?_concat_length, rfl, rfl⟩
    · obtain ⟨x, hx, hxi, hxs⟩ := h.held j w m hj' hw
      exact ⟨x, append_get_of_get _ _ _ _ hx, hxi, hxs⟩

/-- handler `i` lets go of the message `m` it holds; the message leaves the stage -/
theorem release (h : Hand f st hs msgs) (hy : hs[i]? = some y) (hfy : f y = some m) (hg : f (g y) = none)
    (hu : ∀ x, (u x).stage ≠ st) : Hand f st (hs.modify i g) (msgs.modify m u) := by
  obtain ⟨x0, hx0, hx0i, _⟩ := h.held i y m hy hfy
  refine ⟨fun j z hj hst => ?_, fun j w m' hj hw => ?_⟩
  · rcases getElem?_modify_some _ _ _ _ _ hj with ⟨rfl, x, _, rfl⟩ | ⟨hmj, hj'⟩
    · exact absurd hst (hu x)
    · obtain ⟨w, hw, hfw⟩ := h.holder j z hj' hst
      have hi : i ≠ z.h := fun e => by
        subst e; rw [hy] at hw; cases hw; rw [hfy] at hfw; cases hfw; exact hmj rfl
      exact ⟨w, by rw [getElem?_modify_ne _ _ _ _ hi]; exact hw, hfw⟩
  · rcases getElem?_modify_some _ _ _ _ _ hj with ⟨rfl, y', hy', rfl⟩ | ⟨hij, hj'⟩
    · rw [hy] at hy'; cases hy'; rw [hg] at hw; cases hw
    · obtain ⟨x, hx, hxi, hxs⟩ := h.held j w m' hj' hw
      -- `m` is held by `i` only: it was emitted for `i`
      have hmm : m ≠ m' := fun e => by subst e; rw [hx0] at hx; cases hx; exact hij (hx0i.symm.trans hxi)
      exact ⟨x, by rw [getElem?_modify_ne _ _ _ _ hmm]; exact hx, hxi, hxs⟩

/-- handler `i`, its hand empty, takes message `m` (emitted for it) which thereby enters the stage -/
theorem take (h : Hand f st hs msgs) (hy : hs[i]? = some y) (hfy : f y = none) (hg : f (g y) = some m)
    (hx : msgs[m]? = some x) (hxi : x.h = i) (hxs : x.stage ≠ st) (hu1 : (u x).stage = st) (hu2 : (u x).h = x.h) :
    Hand f st (hs.modify i g) (msgs.modify m u) := by
  refine ⟨fun j z hj hst => ?_, fun j w m' hj hw => ?_⟩
  · by_cases hmj : m = j
    · subst hmj; rw [getElem?_modify_self _ _ _ _ hx] at hj; cases hj
      rw [hu2, hxi]; exact ⟨g y, getElem?_modify_self _ _ _ _ hy, hg⟩
    · rw [getElem?_modify_ne _ _ _ _ hmj] at hj
      obtain ⟨w, hw, hfw⟩ := h.holder j z hj hst
      have hi : i ≠ z.h := fun e => by subst e; rw [hy] at hw; cases hw; rw [hfy] at hfw; cases hfw
      exact ⟨w, by rw [getElem?_modify_ne _ _ _ _ hi]; exact hw, hfw⟩
  · rcases getElem?_modify_some _ _ _ _ _ hj with ⟨rfl, y', hy', rfl⟩ | ⟨_, hj'⟩
    · rw [hy] at hy'; cases hy'; rw [hg] at hw; cases hw
      exact ⟨u x, getElem?_modify_self _ _ _ _ hx, hu2.trans hxi, hu1⟩
    · obtain ⟨x', hx', hxi', hxs'⟩ := h.held j w m' hj' hw
      have hmm : m ≠ m' := fun e => by subst e; rw [hx] at hx'; cases hx'; exact hxs hxs'
      exact ⟨x', by rw [getElem?_modify_ne _ _ _ _ hmm]; exact hx', hxi', hxs'⟩

end Hand

/-- a message is settled iff its invocation has finished -/
def Settled (msgs : List Msg) : Prop := ∀ x ∈ msgs, (x.settle = .none ↔ x.stage ≠ .done)

structure PathOk (s : St) : Prop where
  pump : Hand (·.pump.held) .pump s.hs s.msgs
  loop : Hand (·.loop.held) .recv s.hs s.msgs
  settled : Settled s.msgs

theorem path_init : PathOk init :=
  ⟨.nil, .nil, nofun⟩

variable {fx : Fix} {s s' : St} {i m : Nat} {g : Handler → Handler} {u : Msg → Msg} {x : Msg}

/-- a message whose invocation has not finished moves to another such stage -/
theorem PathOk.settled_move {st0 : Stage} (h : PathOk s) (hx : s.msgs[m]? = some x) (hst : x.stage = st0)
    (h0 : st0 ≠ .done) (st : Stage) (h1 : st ≠ .done) : Settled (s.msgs.modify m fun x => { x with stage := st }) :=
  forall_mem_modify _ _ _ _ h.settled <| at_get hx fun hx => ⟨fun _ => h1, fun _ => hx.mpr (by rw [hst]; exact h0)⟩

theorem PathOk.settled_done (h : PathOk s) (z : Stl) (hz : z ≠ .none) :
    Settled (s.msgs.modify m fun x => { x with stage := .done, settle := z }) :=
  forall_mem_modify _ _ _ _ h.settled fun _ _ _ => ⟨fun e => absurd e hz, fun e => absurd rfl e⟩

/-- one handler changes; the pump holds what it held, the loop holds what it held -/
theorem path_updH (h : PathOk s) (e1 : s'.hs = s.hs.modify i g) (e2 : s'.msgs = s.msgs)
    (hp : ∀ y, s.hs[i]? = some y → (g y).pump.held = y.pump.held)
    (hl : ∀ y, s.hs[i]? = some y → (g y).loop.held = y.loop.held) : PathOk s' :=
  ⟨by rw [e1, e2]; exact h.pump.modifyH hp, by rw [e1, e2]; exact h.loop.modifyH hl, by rw [e2]; exact h.settled⟩

/-- a message that is past pump and loop moves on … -/
theorem path_stage {st0 : Stage} (h : PathOk s) (hx : s.msgs[m]? = some x) (hst : x.stage = st0) (h1 : st0 ≠ .pump)
    (h2 : st0 ≠ .recv) (h3 : st0 ≠ .done) (st : Stage) (h4 : st ≠ .pump) (h5 : st ≠ .recv) (h6 : st ≠ .done) :
    PathOk (updM s m fun x => { x with stage := st }) :=
  ⟨h.pump.modifyM hx (by rw [hst]; exact h1) h4, h.loop.modifyM hx (by rw [hst]; exact h2) h5,
    h.settled_move hx hst h3 st h6⟩

/-- … or its invocation finishes -/
theorem path_done {st0 : Stage} (h : PathOk s) (hx : s.msgs[m]? = some x) (hst : x.stage = st0) (h1 : st0 ≠ .pump)
    (h2 : st0 ≠ .recv) (z : Stl) (hz : z ≠ .none) :
    PathOk (updM s m fun x => { x with stage := .done, settle := z }) :=
  ⟨h.pump.modifyM hx (by rw [hst]; exact h1) nofun, h.loop.modifyM hx (by rw [hst]; exact h2) nofun, h.settled_done z hz⟩

theorem path_step {a : Action} (hl : LifeOk fx s) (h : PathOk s) (hs : Step fx s a s') : PathOk s' := by
  cases hs with
  | addHandlerTok | addHandlerSel | addHandlerDrop => exact ⟨h.pump.appendH rfl, h.loop.appendH rfl, h.settled⟩
  -- a message enters the pump's hand, goes over to the loop's or is dropped, leaves the loop's hand
  | emit hx hp =>
    -- `by rfl`, not `rfl`: the handler update is known from the goal only, a term `rfl` would settle for the identity
    refine ⟨h.pump.emit hx (by rw [hp]; rfl) rfl _, .appendM (h.loop.modifyH fun _ _ => by rfl) nofun, fun z hz => ?_⟩
    rcases List.mem_append.mp hz with hz | hz
    · exact h.settled z hz
    · cases List.mem_singleton.mp hz; exact ⟨fun _ => nofun, fun _ => rfl⟩
  | pumpOut hx hp hlp =>
    obtain ⟨x0, hx0, hx0i, hx0s⟩ := h.pump.held _ _ _ hx (by rw [hp]; rfl)
    exact ⟨h.pump.release hx (by rw [hp]; rfl) rfl fun _ => nofun,
      h.loop.take hx (by rw [hlp]; rfl) rfl hx0 hx0i (by rw [hx0s]; nofun) rfl rfl, h.settled_move hx0 hx0s nofun _ nofun⟩
  | pumpDrop hx hp =>
    obtain ⟨x0, hx0, hx0i, hx0s⟩ := h.pump.held _ _ _ hx (by rw [hp]; rfl)
    exact ⟨h.pump.release hx (by rw [hp]; rfl) rfl fun _ => nofun,
      .modifyM (h.loop.modifyH fun _ _ => by rfl) hx0 (by rw [hx0s]; nofun) nofun, h.settled_move hx0 hx0s nofun _ nofun⟩
  | dispatch hx hlp =>
    obtain ⟨x0, hx0, hx0i, hx0s⟩ := h.loop.held _ _ _ hx (by rw [hlp]; rfl)
    exact ⟨.modifyM (h.pump.modifyH fun _ _ => by rfl) hx0 (by rw [hx0s]; nofun) nofun,
      h.loop.release hx (by rw [hlp]; rfl) rfl fun _ => nofun, h.settled_move hx0 hx0s nofun _ nofun⟩
  -- pump or loop change between states in which they hold nothing
  | rhSub hhl hx hst =>
    exact path_updH h rfl rfl (at_get hx (by rw [hl.pump_off (by rw [hhl]; rfl) hx hst]; rfl)) fun _ _ => rfl
  | rhSpawn hhl =>
    obtain ⟨y, hy, c⟩ := hl.cur _ 2 (by rw [hhl]; rfl)
    exact path_updH h rfl rfl (fun _ _ => rfl) (at_get hy (by rw [c.c2]; rfl))
  | pumpEnd hx hp => exact path_updH h rfl rfl (at_get hx (by rw [hp]; rfl)) fun _ _ => rfl
  | loopEnd hx hlp | pubClose hx hlp | wgDone hx hlp | loopDelete hx hlp =>
    exact path_updH h rfl rfl (fun _ _ => rfl) (at_get hx (by rw [hlp]; rfl))
  -- neither pump nor loop change
  | rhStep0 | rhStep1 => exact path_updH h rfl rfl (fun _ _ => by cases fx.d7 <;> rfl) fun _ _ => by cases fx.d7 <;> rfl
  | innerCtx | hcClose | hcCtxClose | hcCtxStop | hcInnerRet | hcCloseFail | hcPumpWaited | hcStop | stop =>
    exact path_updH h rfl rfl (fun _ _ => rfl) fun _ _ => rfl
  -- the invocation
  | hStart hx hst | hReturnOk hx hst | hPublishedOk hx hst =>
    exact path_stage h hx hst nofun nofun nofun _ nofun nofun nofun
  | hReturnErr hx hst | hPublishedErr hx hst | hSettle hx hst => exact path_done h hx hst nofun nofun _ nofun
  | _ => exact ⟨h.pump, h.loop, h.settled⟩

theorem reach_path (fx : Fix) : ∀ s, Reach (sys fx) s → PathOk s :=
  inv_of_step' (sys fx) PathOk path_init fun s _ _ hr h ha => path_step (reach_life fx s hr) h (step_of_act ha)

end Wm.RouterLife
