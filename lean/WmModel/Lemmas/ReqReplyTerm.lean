/-
  For the termination clauses of C18: how a step of the system touches one listener (`Touch`); a measure on a
  listener that each of its own steps lowers and only a delivery to it raises; the measures that count the
  `close(replyChan)` and `OnListenForReplyFinished` steps; stability of "the context has ended".
-/
import WmModel.Lemmas.ReqReplyInv
namespace Wm.ReqReply
open Wm.Lts

/-- a step of class `P` lowers `μ` by at least one and only a step of class `Q` raises it, by at most `c`: the number
    of `P` steps of a run is bounded by `μ` plus `c` per `Q` step -/
theorem steps_bounded_credit_class {σ α : Type} (S : Sys σ α) (μ : σ → Nat) (P Q : α → Bool) (c : Nat)
    (hstep : ∀ s a s', Reach S s → S.act s a = some s' →
      (if P a then 1 else 0) + μ s' ≤ μ s + (if Q a then c else 0)) :
    ∀ (run : List α) (s s' : σ), Reach S s → exec S s run = some s' →
      (run.filter P).length + μ s' ≤ μ s + c * (run.filter Q).length := by
  intro run
  induction run with
  | nil => intro s s' _ h; cases h; simp
  | cons a rest ih =>
    intro s s' hr h
    simp only [exec] at h
    split at h
    · rename_i s1 hact
      have h1 := hstep _ _ _ hr hact
      have h2 := ih s1 s' (Reach.step hr hact) h
      simp only [← List.countP_eq_length_filter, List.countP_cons, Nat.mul_add] at h2 ⊢
      generalize P a = p, Q a = q at h1 ⊢
      cases p <;> cases q <;> simp at h1 ⊢ <;> omega
    · cases h

/-- a step of class `P` lowers `μ` by exactly one and nothing else changes it: the number of `P` steps of a run is
    exactly the drop of `μ` -/
theorem steps_counted {σ α : Type} (S : Sys σ α) (μ : σ → Nat) (P : α → Bool)
    (hstep : ∀ s a s', Reach S s → S.act s a = some s' → (if P a then 1 else 0) + μ s' = μ s) :
    ∀ (run : List α) (s s' : σ), Reach S s → exec S s run = some s' →
      (run.filter P).length + μ s' = μ s := by
  intro run
  induction run with
  | nil => intro s s' _ h; cases h; simp
  | cons a rest ih =>
    intro s s' hr h
    simp only [exec] at h
    split at h
    · rename_i s1 hact
      have h1 := hstep _ _ _ hr hact
      have h2 := ih s1 s' (Reach.step hr hact) h
      simp only [← List.countP_eq_length_filter, List.countP_cons] at h2 ⊢
      omega
    · cases h

def rank : Pc → Nat
  | .done => 0 | .ret2 => 1 | .ret1 => 2 | .ret0 => 3 | .loop => 4 | .send _ => 5

/-- two per unconsumed notification (consume it, perhaps send its reply) plus the rank of the program counter -/
def mu (l : Listener) : Nat := 2 * l.inbox.length + rank l.pc

/-- 1 until `close(replyChan)` ran -/
def cm (l : Listener) : Nat := if pcClosed l.pc then 0 else 1

/-- 1 until `OnListenForReplyFinished` ran -/
def fm (l : Listener) : Nat := if l.pc = .done then 0 else 1

/-- a measure on listener `i` of the state; `d` while the listener does not exist yet -/
def atL (m : Listener → Nat) (d : Nat) (s : St) (i : Nat) : Nat :=
  match s.ls[i]? with
  | some l => m l
  | none => d

theorem atL_some {m : Listener → Nat} {d : Nat} {s : St} {i : Nat} {l : Listener} (h : s.ls[i]? = some l) :
    atL m d s i = m l := by
  unfold atL; rw [h]

/-- the default is the value at a fresh listener: at `loop`, inbox empty -/
def muAt (s : St) (i : Nat) : Nat := atL mu 4 s i

/-- the panic branch of `close` is excluded by `LOk.closed` -/
theorem not_closeTwice {l : Listener} (hcl : l.chanClosed = pcClosed l.pc) (hpc : l.pc = .ret1) :
    l.chanClosed ≠ true := by
  rw [hcl, hpc]; decide

theorem lstep_mu {fixed : Bool} {l l' : Listener} {a : LAct} (hcl : l.chanClosed = pcClosed l.pc)
    (h : LStep fixed l a l') : mu l' < mu l := by
  cases h
  case closeTwice hpc hc => exact absurd hc (not_closeTwice hcl hpc)
  all_goals simp only [mu, rank, push_inbox, *, List.length_cons]; omega

/-- only `close` lowers `cm` -/
theorem lstep_cm {fixed : Bool} {l l' : Listener} {a : LAct} (hcl : l.chanClosed = pcClosed l.pc)
    (h : LStep fixed l a l') : (if a = .close then 1 else 0) + cm l' = cm l := by
  cases h
  case closeTwice hpc hc => exact absurd hc (not_closeTwice hcl hpc)
  all_goals simp [cm, pcClosed, *]

/-- only `finish` lowers `fm` -/
theorem lstep_fm {fixed : Bool} {l l' : Listener} {a : LAct} (h : LStep fixed l a l') :
    (if a = .finish then 1 else 0) + fm l' = fm l := by
  cases h <;> simp [fm, *]

theorem cstep_pc_inbox {l l' : Listener} {a : CAct} (h : CStep l a l') : l'.pc = l.pc ∧ l'.inbox = l.inbox := by
  cases h <;> exact ⟨rfl, rfl⟩

theorem lstep_ctx {fixed : Bool} {l l' : Listener} {a : LAct} (h : LStep fixed l a l') (hc : l.ctx ≠ .live) :
    l'.ctx ≠ .live := by
  cases h <;> first | exact cancel_ne_live l.ctx | simpa only [push_ctx] using hc

theorem cstep_ctx {l l' : Listener} {a : CAct} (h : CStep l a l') (hc : l.ctx ≠ .live) : l'.ctx ≠ .live := by
  cases h with
  | cancel => exact cancel_ne_live l.ctx
  | timeout hlive => exact absurd hlive hc
  | _ => exact hc

/-- with the repaired code a listener whose context has ended can always move on its own -/
theorem lstep_progress (l : Listener) (hc : l.ctx ≠ .live) (hd : l.pc ≠ .done) :
    ∃ a, (lstep true l a).isSome = true := by
  cases hpc : l.pc with
  | loop =>
    obtain ⟨w, hw⟩ : ∃ w, l.ctx.why = some w := by
      cases hx : l.ctx
      case live => exact absurd hx hc
      all_goals exact ⟨_, rfl⟩
    exact ⟨.ctx, by simp only [lstep, hpc, hw]; split <;> simp⟩
  | send r => exact ⟨.sendCtx, by simp [lstep, hpc, hc]⟩
  | ret0 => exact ⟨.cancel, by simp [lstep, hpc]⟩
  | ret1 => exact ⟨.close, by simp only [lstep, hpc]; split <;> simp⟩
  | ret2 => exact ⟨.finish, by simp [lstep, hpc]⟩
  | done => exact absurd hpc hd

/-- entry `i` of the listener table before (`o`) and after (`o'`) a step: the step is addressed to listener `i`, or
    creates it, or is not one of its `l` / `deliver` actions and leaves the entry alone -/
inductive Touch (fixed : Bool) (pub : List Notif) (i : Nat) (o o' : Option Listener) : Action → Prop
  | here {a : Action} {l l' : Listener} : o = some l → o' = some l' → Local fixed pub i l a l' →
      Touch fixed pub i o o' a
  | new {op : Nat} : o = none → o' = some (Listener.new op) → Touch fixed pub i o o' .newReq
  | other {a : Action} : isL i a = false → isDeliver i a = false → o' = o → Touch fixed pub i o o' a

theorem local_other {fixed : Bool} {pub : List Notif} {i j : Nat} {l l' : Listener} {a : Action}
    (h : Local fixed pub j l a l') (hji : j ≠ i) : isL i a = false ∧ isDeliver i a = false := by
  have hb : (i == j) = false := by simpa using Ne.symm hji
  cases h <;> exact ⟨by first | rfl | exact hb, by first | rfl | exact hb⟩

theorem isClose_le_isL {i : Nat} {a : Action} (h : isL i a = false) : isClose i a = false := by
  cases a with
  | l j x => cases x <;> first | rfl | exact h
  | _ => rfl

theorem isFinish_le_isL {i : Nat} {a : Action} (h : isL i a = false) : isFinish i a = false := by
  cases a with
  | l j x => cases x <;> first | rfl | exact h
  | _ => rfl

section
variable {fixed : Bool} {pub : List Notif} {i : Nat} {l l' : Listener} {a : Action}

theorem local_ctx (h : Local fixed pub i l a l') (hc : l.ctx ≠ .live) : l'.ctx ≠ .live := by
  cases h with
  | l h => exact lstep_ctx h hc
  | c h => exact cstep_ctx h hc
  | deliver _ => exact hc

/-- each step of the listener lowers `mu`, a delivery raises it by two, the environment leaves it alone -/
theorem local_mu (hcl : l.chanClosed = pcClosed l.pc) (h : Local fixed pub i l a l') :
    (if isL i a then 1 else 0) + mu l' ≤ mu l + (if isDeliver i a then 2 else 0) := by
  cases h with
  | l h => have := lstep_mu hcl h; simp [isL, isDeliver]; omega
  | c h => simp [isL, isDeliver, mu, cstep_pc_inbox h]
  | deliver _ => simp [isL, isDeliver, mu]; omega

theorem local_cm (hcl : l.chanClosed = pcClosed l.pc) (h : Local fixed pub i l a l') :
    (if isClose i a then 1 else 0) + cm l' = cm l := by
  cases h with
  | @l x _ h => rw [← lstep_cm hcl h]; cases x <;> simp [isClose]
  | c h => simp [isClose, cm, cstep_pc_inbox h]
  | deliver _ => simp [isClose, cm]

theorem local_fm (h : Local fixed pub i l a l') : (if isFinish i a then 1 else 0) + fm l' = fm l := by
  cases h with
  | @l x _ h => rw [← lstep_fm h]; cases x <;> simp [isFinish]
  | c h => simp [isFinish, fm, cstep_pc_inbox h]
  | deliver _ => simp [isFinish, fm]

end

theorem step_touch {fixed : Bool} {s s' : St} {a : Action} (h : act fixed s a = some s') (i : Nat) :
    Touch fixed s.pub i s.ls[i]? s'.ls[i]? a := by
  cases act_inv h with
  | newReq =>
    show Touch fixed s.pub i s.ls[i]? (s.ls ++ [Listener.new s.nextOp])[i]? .newReq
    rcases Nat.lt_trichotomy i s.ls.length with hi | hi | hi
    · exact .other rfl rfl (List.getElem?_append_left hi)
    · exact .new (List.getElem?_eq_none (Nat.le_of_eq hi.symm))
        (by rw [List.getElem?_append_right (Nat.le_of_eq hi.symm), hi, Nat.sub_self]; rfl)
    · refine .other rfl rfl ?_
      rw [List.getElem?_eq_none (Nat.le_of_lt hi), List.getElem?_eq_none]
      rw [List.length_append, List.length_singleton]; omega
  | process => exact .other rfl rfl rfl
  | @upd j l l' a hj hloc =>
    show Touch fixed s.pub i s.ls[i]? (s.ls.set j l')[i]? a
    by_cases hji : j = i
    · subst hji
      exact .here hj (by rw [List.getElem?_set_self (List.getElem?_eq_some_iff.mp hj).1]) hloc
    · exact .other (local_other hloc hji).1 (local_other hloc hji).2 (List.getElem?_set_ne hji)

/-- a class `C` of steps of listener `i`, each of which lowers the measure `m` of that listener by one while nothing
    else changes it: a run has as many of them as `m` drops (`d`: the value at a fresh listener) -/
theorem own_steps_counted (fixed a : Bool) (i : Nat) (m : Listener → Nat) (d : Nat) (C : Action → Bool)
    (hnew : ∀ op, m (Listener.new op) = d) (hother : ∀ x, isL i x = false → C x = false)
    (hloc : ∀ {pub l l' x}, l.chanClosed = pcClosed l.pc → Local fixed pub i l x l' →
      (if C x then 1 else 0) + m l' = m l)
    (run : List Action) (s s' : St) (hr : Reach (sys fixed a) s) (he : exec (sys fixed a) s run = some s') :
    (run.filter C).length + atL m d s' i = atL m d s i := by
  refine steps_counted (sys fixed a) (fun s => atL m d s i) C ?_ run s s' hr he
  intro s x s' hr hx
  show (if C x then 1 else 0) + atL m d s' i = atL m d s i
  unfold atL
  cases step_touch (fixed := fixed) hx i with
  | here ho ho' hl => rw [ho, ho']; exact hloc ((reach_sok fixed a s hr).lok i _ ho).1.closed hl
  | new ho ho' => rw [ho, ho', hother _ rfl]; exact (Nat.zero_add _).trans (hnew _)
  | other hL _ ho' => rw [ho', hother x hL]; exact Nat.zero_add _

end Wm.ReqReply
