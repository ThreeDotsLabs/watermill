/-
  Control invariant of the close protocol: who holds closedLock / handlersLock, which Close call performs the close,
  when closedCh is closed, what Run has seen.
-/
import WmModel.Lemmas.RouterLifeBase
namespace Wm.RouterLife
open Wm.Lts

structure CtlOk (s : St) : Prop where
  k1 : ∀ (k : Nat), s.closers[k]? = some CPc.waiting →
         s.closed = true ∧ s.closedCh = false ∧ s.hl = .closer k ∧ s.cl = some k
  k2 : ∀ (k : Nat), s.closers[k]? = some CPc.wantHL → s.cl = some k
  k3 : ∀ (k : Nat), s.cl = some k → s.closers[k]? = some CPc.wantHL ∨ s.closers[k]? = some CPc.waiting
  k4 : ∀ (k : Nat), s.hl = .closer k → s.closers[k]? = some CPc.waiting
  k5 : (s.closedCh = true → s.closed = true) ∧ (s.closedCh = true ↔ (s.closeNil = true ∨ s.closeErr = true))
  k6 : s.closing = s.closed
  k7 : s.closed = true → s.closedCh = false → ∃ k : Nat, s.closers[k]? = some CPc.waiting
  k8 : (s.run = .ret → s.closedCh = true) ∧ (s.run = .waitClosed → s.closing = true)
  k9 : s.timerFired = true → s.closed = true

theorem ctl_init : CtlOk init := by
  constructor <;> simp [init]

/-- the Close call that holds `handlersLock`, if one does -/
def HL.closer? : HL → Option Nat
  | .closer k => some k
  | _ => none

theorem HL.closer?_eq_some {l : HL} {k : Nat} : l.closer? = some k ↔ l = .closer k := by
  cases l <;> simp [HL.closer?]

variable {s s' : St}

/-- while `handlersLock` is free no Close call is waiting for the handlers -/
theorem CtlOk.no_waiting (h : CtlOk s) (hf : s.hl = .free) (j : Nat) : s.closers[j]? ≠ some CPc.waiting :=
  fun hj => by have := (h.k1 j hj).2.2.1; rw [hf] at this; cases this

/-- closedLock has one holder -/
theorem CtlOk.wantHL_unique (h : CtlOk s) {k j : Nat} (hk : s.closers[k]? = some CPc.wantHL)
    (hj : s.closers[j]? = some CPc.wantHL) : j = k := by
  have := h.k2 j hj; rw [h.k2 k hk] at this; cases this; rfl

/-- steps that leave the close protocol's variables alone; `handlersLock` may move between RunHandlers and nobody -/
theorem ctl_frame (h : CtlOk s)
    (e9 : (s'.run = .ret → s'.closedCh = true) ∧ (s'.run = .waitClosed → s'.closing = true))
    (e10 : s'.timerFired = true → s'.closed = true) (e1 : s'.closers = s.closers := by rfl)
    (e2 : s'.closed = s.closed := by rfl) (e3 : s'.closedCh = s.closedCh := by rfl)
    (e4 : s'.hl.closer? = s.hl.closer? := by rfl) (e5 : s'.cl = s.cl := by rfl)
    (e6 : s'.closeNil = s.closeNil := by rfl) (e7 : s'.closeErr = s.closeErr := by rfl)
    (e8 : s'.closing = s.closing := by rfl) : CtlOk s' := by
  have e4' (k : Nat) : s'.hl = .closer k ↔ s.hl = .closer k := by
    rw [← HL.closer?_eq_some, ← HL.closer?_eq_some, e4]
  obtain ⟨k1, k2, k3, k4, k5, k6, k7, k8, k9⟩ := h
  constructor
  · rw [e1, e2, e3, e5]; intro k hk; rw [e4']; exact k1 k hk
  · rw [e1, e5]; exact k2
  · rw [e1, e5]; exact k3
  · rw [e1]; intro k hk; exact k4 k ((e4' k).mp hk)
  · rw [e2, e3, e6, e7]; exact k5
  · rw [e8, e2]; exact k6
  · rw [e1, e2, e3]; exact k7
  · exact e9
  · exact e10

/-- a new Close call arrives -/
theorem ctl_append (h : CtlOk s) (e1 : s'.closers = s.closers ++ [CPc.wantCL] := by rfl)
    (e2 : s'.closed = s.closed := by rfl) (e3 : s'.closedCh = s.closedCh := by rfl) (e4 : s'.hl = s.hl := by rfl)
    (e5 : s'.cl = s.cl := by rfl) (e6 : s'.closeNil = s.closeNil := by rfl) (e7 : s'.closeErr = s.closeErr := by rfl)
    (e8 : s'.closing = s.closing := by rfl) (e9 : s'.run = s.run := by rfl)
    (e10 : s'.timerFired = s.timerFired := by rfl) : CtlOk s' := by
  obtain ⟨k1, k2, k3, k4, k5, k6, k7, k8, k9⟩ := h
  have old : ∀ (j : Nat) (c : CPc), c ≠ .wantCL → s'.closers[j]? = some c → s.closers[j]? = some c := by
    intro j c hc hj
    rw [e1] at hj
    rcases get_append_cases _ _ _ _ hj with ⟨_, hj⟩ | ⟨_, hj⟩
    · exact hj
    · exact absurd hj hc
  have mono : ∀ (j : Nat) (c : CPc), s.closers[j]? = some c → s'.closers[j]? = some c := by
    intro j c hj; rw [e1]; exact append_get_of_get _ _ _ _ hj
  constructor
  · rw [e2, e3, e4, e5]; intro j hj; exact k1 j (old j _ nofun hj)
  · rw [e5]; intro j hj; exact k2 j (old j _ nofun hj)
  · rw [e5]; intro j hj; exact (k3 j hj).imp (mono j _) (mono j _)
  · rw [e4]; intro j hj; exact mono j _ (k4 j hj)
  · rw [e2, e3, e6, e7]; exact k5
  · rw [e8, e2]; exact k6
  · rw [e2, e3]; intro a b; obtain ⟨j, hj⟩ := k7 a b; exact ⟨j, mono j _ hj⟩
  · rw [e9, e3, e8]; exact k8
  · rw [e10, e2]; exact k9

/-- the performing Close call returns (nil or timeout error): closedCh is closed, both locks are released -/
theorem ctl_finish {k : Nat} (err : Bool) (h : CtlOk s) (hk : s.closers[k]? = some CPc.waiting)
    (e6 : s'.closeNil = true ∨ s'.closeErr = true) (e1 : s'.closers = s.closers.set k (.ret err) := by rfl)
    (e2 : s'.closed = s.closed := by rfl) (e3 : s'.closedCh = true := by rfl) (e4 : s'.hl = .free := by rfl)
    (e5 : s'.cl = none := by rfl) (e8 : s'.closing = s.closing := by rfl) (e9 : s'.run = s.run := by rfl)
    (e10 : s'.timerFired = s.timerFired := by rfl) : CtlOk s' := by
  obtain ⟨k1, k2, k3, k4, k5, k6, k7, k8, k9⟩ := h
  obtain ⟨hc, _, hhl, hcl⟩ := k1 k hk
  -- every other call that is past closedLock would hold it too
  have other (j : Nat) (hj : s.cl = some j) : j = k := by rw [hcl] at hj; cases hj; rfl
  constructor
  · rw [e1]; intro j hj
    rcases get_set_cases _ _ _ _ _ hj with ⟨_, hc'⟩ | ⟨hne, hj'⟩
    · cases hc'
    · exact absurd (other j (k1 j hj').2.2.2) hne
  · rw [e1]; intro j hj
    rcases get_set_cases _ _ _ _ _ hj with ⟨_, hc'⟩ | ⟨hne, hj'⟩
    · cases hc'
    · exact absurd (other j (k2 j hj')) hne
  · rw [e5]; nofun
  · rw [e4]; nofun
  · rw [e2, e3]; exact ⟨fun _ => hc, ⟨fun _ => e6, fun _ => rfl⟩⟩
  · rw [e8, e2]; exact k6
  · rw [e3]; nofun
  · rw [e9, e3, e8]; exact ⟨fun _ => rfl, k8.2⟩
  · rw [e10, e2]; exact k9

theorem ctl_step {fx : Fix} {a : Action} (h : CtlOk s) (hs : Step fx s a s') : CtlOk s' := by
  cases hs with
  | closeCall | watchCheck => exact ctl_append h
  | closeDone hk => exact ctl_finish false h hk (.inl rfl)
  | closeTimeout hk => exact ctl_finish true h hk (.inr rfl)
  | @closeCL k hk hcl =>
    -- closedLock is free: no call is past it
    obtain ⟨k1, k2, k3, k4, k5, k6, k7, k8, k9⟩ := h
    have noWait (j : Nat) (hj : s.closers[j]? = some CPc.waiting) : False := by
      have := (k1 j hj).2.2.2; rw [hcl] at this; cases this
    refine ⟨?_, ?_, ?_, fun j hj => (noWait j (k4 j hj)).elim, k5, k6, ?_, k8, k9⟩
    · intro j hj
      rcases get_set_cases _ _ _ _ _ hj with ⟨_, hc⟩ | ⟨_, hj'⟩
      · cases hc
      · exact (noWait j hj').elim
    · intro j hj
      rcases get_set_cases _ _ _ _ _ hj with ⟨hkj, _⟩ | ⟨_, hj'⟩
      · rw [hkj]
      · have := k2 j hj'; rw [hcl] at this; cases this
    · intro j hj; cases hj
      exact .inl (List.getElem?_set_self (List.getElem?_eq_some_iff.mp hk).1)
    · intro hc hcc
      obtain ⟨j, hj⟩ := k7 hc hcc
      exact (noWait j hj).elim
  | @closeHLAgain k hk hfree hclosed =>
    -- handlersLock is free: no call is waiting, so the close has completed
    have hcc : s.closedCh = true := by
      cases hcc : s.closedCh with
      | true => rfl
      | false => obtain ⟨j, hj⟩ := h.k7 hclosed hcc; exact absurd hj (h.no_waiting hfree j)
    refine ⟨?_, ?_, nofun, fun j hj => absurd (h.k4 j hj) (h.no_waiting hfree j), h.k5, h.k6, ?_, h.k8, h.k9⟩
    · intro j hj
      rcases get_set_cases _ _ _ _ _ hj with ⟨_, hc⟩ | ⟨_, hj'⟩
      · cases hc
      · exact absurd hj' (h.no_waiting hfree j)
    · intro j hj
      rcases get_set_cases _ _ _ _ _ hj with ⟨_, hc⟩ | ⟨hne, hj'⟩
      · cases hc
      · exact absurd (h.wantHL_unique hk hj') hne
    · intro _ (hc : s.closedCh = false); rw [hcc] at hc; cases hc
  | @closeHL k hk hfree hclosed =>
    -- this call performs the close and becomes the one waiting call
    have hset : (s.closers.set k CPc.waiting)[k]? = some CPc.waiting :=
      List.getElem?_set_self (List.getElem?_eq_some_iff.mp hk).1
    have hncc : s.closedCh = false := by
      cases hcc : s.closedCh with
      | false => rfl
      | true => have := h.k5.1 hcc; rw [hclosed] at this; cases this
    refine ⟨?_, ?_, ?_, ?_, ⟨fun (hc : s.closedCh = true) => (by rw [hncc] at hc), h.k5.2⟩, rfl, fun _ _ => ⟨k, hset⟩,
      ⟨h.k8.1, fun _ => rfl⟩, fun _ => rfl⟩
    · intro j hj
      rcases get_set_cases _ _ _ _ _ hj with ⟨hkj, _⟩ | ⟨_, hj'⟩
      · rw [hkj]; exact ⟨rfl, hncc, rfl, h.k2 k hk⟩
      · exact absurd hj' (h.no_waiting hfree j)
    · intro j hj
      rcases get_set_cases _ _ _ _ _ hj with ⟨_, hc⟩ | ⟨hne, hj'⟩
      · cases hc
      · exact absurd (h.wantHL_unique hk hj') hne
    · intro j hj
      have : s.cl = some j := hj
      rw [h.k2 k hk] at this; cases this
      exact .inr hset
    · intro j hj; cases hj; exact hset
  -- Run and RunHandlers: `handlersLock` is not a Close call's before or after; Run's own waits
  | timer hc => exact ctl_frame h h.k8 fun _ => hc
  | runCall | runWatch | runRunning => exact ctl_frame h ⟨nofun, nofun⟩ h.k9
  | runCancelStep _ hc => exact ctl_frame h ⟨nofun, fun _ => hc⟩ h.k9
  | runRet _ hcc => exact ctl_frame h ⟨fun _ => hcc, nofun⟩ h.k9
  | runRh _ hf => exact ctl_frame h ⟨nofun, nofun⟩ h.k9 (e4 := by rw [hf]; rfl)
  | rhCall _ hf => exact ctl_frame h h.k8 h.k9 (e4 := by rw [hf]; rfl)
  | rhSub hhl | rhStep0 hhl | rhStep1 hhl | rhSpawn hhl =>
    exact ctl_frame h h.k8 h.k9 (e4 := by rw [hhl]; rfl)
  | @rhSubFail _ v _ hhl | @rhEnd v hhl =>
    refine ctl_frame h ?_ h.k9 (e4 := by rw [hhl]; rfl)
    cases v
    · exact h.k8
    · exact ⟨nofun, nofun⟩
  | _ => exact ctl_frame h h.k8 h.k9

theorem reach_ctl (fx : Fix) : ∀ s, Reach (sys fx) s → CtlOk s :=
  inv_of_step (sys fx) CtlOk ctl_init fun _ _ _ h ha => ctl_step h (step_of_act ha)

end Wm.RouterLife
