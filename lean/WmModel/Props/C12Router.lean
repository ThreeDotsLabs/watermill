/-
  C12 × C02 – what the subscriber sees when `Retry` wraps a handler inside a Router, derived from the two tied models:
  `Wm.Retry.retry` (tied to the source of middleware/retry.go by `Props/C12Tie.lean`) feeding `Wm.Handle.handle` (tied to
  `handler.handleMessage` by `Props/C02Tie.lean`), settled by the first-wins model of C03.

    * `acked_under_retry_iff`: the consumed message is Acked iff the LAST handler call succeeded and its outputs (if any)
      were accepted by the handler's publisher – never because the retries were used up;
    * `published_under_retry`: what is published is exactly the outputs of that successful call, in one call, on the
      handler's topic (outputs of failed attempts are never published);
    * `nacked_when_all_attempts_fail`: if every call failed the message is Nacked (so the Pub/Sub redelivers it – the
      retries add to, and do not replace, at-least-once).
-/
import WmModel.Props.C12
import WmModel.Props.C02
namespace Wm.Retry
open Wm.Handle (Cfg PubOutcome handle sentAfter)

/-- the result of the middleware as `handleMessage` sees it -/
def Run.toResult (r : Run) : Handle.Result Nat := .returns r.msgs r.err.isSome

/-- the last handler call decides what the middleware returns: its error and, if it succeeded, its messages -/
theorem last_attempt (cfg : Retry.Cfg) (sc : Script) :
    ∃ a, (retry cfg sc).attempts.getLast? = some a ∧ (retry cfg sc).err = a.out.err ∧
      (a.out.err = none → (retry cfg sc).msgs = a.out.outs) := by
  obtain ⟨a, h1, h2⟩ := result_is_last_attempts cfg sc
  obtain ⟨i, hi⟩ := List.getElem?_of_mem (List.mem_of_getLast? h1)
  exact ⟨a, h1, h2, fun hok => (first_success_wins cfg sc i a hi hok).2.2.1⟩

theorem acked_under_retry_iff (k : Ack.Kind) (c : Handle.Cfg) (hc : c.kind = .withPub) (cfg : Retry.Cfg) (sc : Script)
    (p : PubOutcome) :
    sentAfter k (handle c ⟨none, (retry cfg sc).toResult⟩ p) = .ack ↔
      ∃ a, (retry cfg sc).attempts.getLast? = some a ∧ a.out.err = none ∧ (a.out.outs = [] ∨ p = .accept) := by
  obtain ⟨a, h1, h2, h3⟩ := last_attempt cfg sc
  have hR : (∃ a', (retry cfg sc).attempts.getLast? = some a' ∧ a'.out.err = none ∧ (a'.out.outs = [] ∨ p = .accept)) ↔
      a.out.err = none ∧ (a.out.outs = [] ∨ p = .accept) := by simp [h1]
  rw [hR, Handle.sentAfter_handle, Run.toResult, h2]
  cases he : a.out.err with
  | some e => simp [Handle.ending_error]
  | none =>
    rw [h3 he]
    by_cases hne : a.out.outs = []
    · simp [hne, Handle.ending_nil]
    · simp [Handle.ending_withPub hc none hne, hne]

/-- the `Publish` calls of an effect list: topic and objects (as `Wm.Route.pubCallsOf`, `Props/C08Router.lean`) -/
def pubCallsOf : List (Handle.Effect Nat) → List (String × List Nat)
  | [] => []
  | .publishCall t ms :: rest => (t, ms) :: pubCallsOf rest
  | _ :: rest => pubCallsOf rest

theorem published_under_retry (c : Handle.Cfg) (hc : c.kind = .withPub) (cfg : Retry.Cfg) (sc : Script) (p : PubOutcome) :
    pubCallsOf (handle c ⟨none, (retry cfg sc).toResult⟩ p) =
      (match (retry cfg sc).err, (retry cfg sc).msgs with
       | none, m :: ms => [(c.topic, m :: ms)]
       | _, _ => []) ∧
    ((retry cfg sc).err = none → ∃ a, (retry cfg sc).attempts.getLast? = some a ∧ (retry cfg sc).msgs = a.out.outs) := by
  constructor
  · cases he : (retry cfg sc).err with
    | some e => simp [Run.toResult, he, handle, Handle.selfEff, pubCallsOf]
    | none =>
      cases hm : (retry cfg sc).msgs with
      | nil => simp [Run.toResult, he, hm, handle, Handle.selfEff, Handle.publishProduced, Handle.settleTail, pubCallsOf]
      | cons m ms =>
        cases p <;>
          simp [Run.toResult, he, hm, handle, Handle.selfEff, Handle.publishProduced, hc, Handle.settleTail, pubCallsOf,
            Handle.effPub, Handle.pubTopic_withPub hc]
  · intro he
    obtain ⟨a, h1, h2, h3⟩ := last_attempt cfg sc
    exact ⟨a, h1, h3 (h2 ▸ he)⟩

theorem nacked_when_all_attempts_fail (k : Ack.Kind) (c : Handle.Cfg) (cfg : Retry.Cfg) (sc : Script) (p : PubOutcome)
    (hfail : ∀ a ∈ (retry cfg sc).attempts, a.out.err ≠ none) :
    sentAfter k (handle c ⟨none, (retry cfg sc).toResult⟩ p) = .nack ∧
      pubCallsOf (handle c ⟨none, (retry cfg sc).toResult⟩ p) = [] := by
  obtain ⟨a, e, _, _, he⟩ := last_error_returned cfg sc hfail
  constructor
  · simp [Handle.sentAfter_handle, Run.toResult, he, Handle.ending_error]
  · simp [Run.toResult, he, handle, Handle.selfEff, pubCallsOf]

/-! ### non-vacuity: the third call succeeds → Ack; nine failing calls → Nack, nothing published -/
example : sentAfter .new (handle ⟨.withPub, "out"⟩ ⟨none, (retry exCfg (exScript 2 fun _ => .timer 0)).toResult⟩ .accept) = .ack := by
  decide
example : sentAfter .new (handle ⟨.withPub, "out"⟩ ⟨none, (retry exCfg (exScript 9 fun _ => .timer 0)).toResult⟩ .accept) = .nack ∧
    pubCallsOf (handle ⟨.withPub, "out"⟩ ⟨none, (retry exCfg (exScript 9 fun _ => .timer 0)).toResult⟩ .accept) = [] := by
  decide

end Wm.Retry
