/-
  `RedOk`, the invariant behind "a subscription sees a published message again only after it nacked the previous
  delivery": of two copies of one publication the earlier one is nacked.
-/
import WmModel.Lemmas.GcSubCtl
import WmModel.Lemmas.ListIdx
namespace Wm.GcSub
open Wm.Ack (Sent)

/-- all copies of publication `p` are nacked -/
def AllNacked (cs : List Copy) (p : Nat) : Prop :=
  ∀ (i : Nat) (ci : Copy), cs[i]? = some ci → ci.pub = p → ci.settle = .nack

def RedOk (s : St) : Prop :=
  -- of two copies of one publication the earlier one is nacked
  (∀ (i j : Nat) (ci cj : Copy), i < j → s.copies[i]? = some ci → s.copies[j]? = some cj → ci.pub = cj.pub → ci.settle = .nack) ∧
  -- the lock holder: before it creates a copy all earlier copies of its publication are nacked;
  -- afterwards its current copy is the newest copy and belongs to its publication
  (∀ p pc c, s.holder = .sender p pc c →
      p < s.nextPub ∧ p ∉ s.waiting ∧
      ((pc = .check ∨ pc = .top) → AllNacked s.copies p) ∧
      ((pc = .sendSel ∨ pc = .waitSettle) → c + 1 = s.copies.length ∧ ∃ cp, s.copies[c]? = some cp ∧ cp.pub = p)) ∧
  -- queued publications are fresh
  (∀ p, p ∈ s.waiting → p < s.nextPub ∧ ∀ (i : Nat) (ci : Copy), s.copies[i]? = some ci → ci.pub ≠ p) ∧
  s.waiting.Nodup ∧
  (∀ (i : Nat) (ci : Copy), s.copies[i]? = some ci → ci.pub < s.nextPub)

theorem red_init (cap : Nat) : RedOk (init cap) :=
  ⟨fun _ _ _ _ _ hi => init_no_copy hi, nofun, nofun, .nil, fun _ _ hi => init_no_copy hi⟩

/-- the first settlement wins: `settle` leaves a settled copy as it is -/
theorem settle_settled {x v w : Sent} (h : x = w) (hw : w ≠ .none) : (if x = .none then v else x) = w := by
  rw [if_neg (h ▸ hw)]; exact h

/-- `modify` with a function that keeps `pub` and never turns a nack into something else -/
theorem redOk_modify {s t : St} (h : RedOk s) {c0 : Nat} {f : Copy → Copy} (hc : t.copies = s.copies.modify c0 f)
    (hh : t.holder = s.holder) (hw : t.waiting = s.waiting) (hn : t.nextPub = s.nextPub)
    (hf : ∀ cp, (f cp).pub = cp.pub ∧ (cp.settle = .nack → (f cp).settle = .nack)) : RedOk t := by
  obtain ⟨r1, r2, r3, r4, r5⟩ := h
  have key : ∀ (i : Nat) (ci : Copy), (s.copies.modify c0 f)[i]? = some ci →
      ∃ ci0, s.copies[i]? = some ci0 ∧ ci.pub = ci0.pub ∧ (ci0.settle = .nack → ci.settle = .nack) := by
    intro i ci hi
    rcases getElem?_modify_some _ _ _ _ _ hi with ⟨_, x, hx, rfl⟩ | ⟨_, hx⟩
    · exact ⟨x, hx, (hf x).1, (hf x).2⟩
    · exact ⟨ci, hx, rfl, id⟩
  unfold RedOk
  rw [hc, hh, hw, hn]
  refine ⟨?_, ?_, ?_, r4, ?_⟩
  · intro i j ci cj hij hi hj hp
    obtain ⟨ci0, hi0, hpi, hni⟩ := key i ci hi
    obtain ⟨cj0, hj0, hpj, _⟩ := key j cj hj
    exact hni (r1 i j ci0 cj0 hij hi0 hj0 (by rw [← hpi, ← hpj]; exact hp))
  · intro p pc c hhold
    obtain ⟨a1, a2, a3, a4⟩ := r2 p pc c hhold
    refine ⟨a1, a2, ?_, ?_⟩
    · intro hpc i ci hi hp
      obtain ⟨ci0, hi0, hpi, hni⟩ := key i ci hi
      exact hni (a3 hpc i ci0 hi0 (by rw [← hpi]; exact hp))
    · intro hpc
      obtain ⟨b1, cp, b2, b3⟩ := a4 hpc
      refine ⟨by rw [List.length_modify]; exact b1, _, by rw [List.getElem?_modify, b2]; rfl, ?_⟩
      split
      · rw [(hf cp).1]; exact b3
      · exact b3
  · intro p hp
    refine ⟨(r3 p hp).1, fun i ci hi => ?_⟩
    obtain ⟨ci0, hi0, hpi, _⟩ := key i ci hi
    rw [hpi]; exact (r3 p hp).2 i ci0 hi0
  · intro i ci hi
    obtain ⟨ci0, hi0, hpi, _⟩ := key i ci hi
    rw [hpi]; exact r5 i ci0 hi0

/-- the lock passes to another holder, or the holder moves on: only the clause about the holder is to be shown -/
theorem redOk_holder {s : St} (h : RedOk s) {x : Holder}
    (hx : ∀ p pc c, x = .sender p pc c →
      p < s.nextPub ∧ p ∉ s.waiting ∧
      ((pc = .check ∨ pc = .top) → AllNacked s.copies p) ∧
      ((pc = .sendSel ∨ pc = .waitSettle) → c + 1 = s.copies.length ∧ ∃ cp, s.copies[c]? = some cp ∧ cp.pub = p)) :
    RedOk { s with holder := x } :=
  ⟨h.1, hx, h.2.2⟩

theorem red_step (s : St) (a : Action) (s' : St) (h : RedOk s) (ha : act s a = some s') : RedOk s' := by
  have ⟨r1, r2, r3, r4, r5⟩ := h
  cases step_of_act ha with
  | spawn =>
    refine ⟨r1, ?_, ?_, ?_, ?_⟩
    · intro p pc c hh
      obtain ⟨a1, a2, a3, a4⟩ := r2 p pc c hh
      refine ⟨Nat.lt_succ_of_lt a1, ?_, a3, a4⟩
      simp only [List.mem_append, List.mem_singleton, not_or]
      exact ⟨a2, Nat.ne_of_lt a1⟩
    · intro p hp
      rcases List.mem_append.mp hp with hp | hp
      · exact ⟨Nat.lt_succ_of_lt (r3 p hp).1, (r3 p hp).2⟩
      · cases List.mem_singleton.mp hp
        exact ⟨Nat.lt_succ_self _, fun i ci hi hpub => Nat.lt_irrefl _ (hpub ▸ r5 i ci hi)⟩
    · rw [List.nodup_append]
      refine ⟨r4, by simp, fun a ha b hb => ?_⟩
      cases List.mem_singleton.mp hb
      exact Nat.ne_of_lt (r3 a ha).1
    · exact fun i ci hi => Nat.lt_succ_of_lt (r5 i ci hi)
  | @sLock k p hf hk =>
    have hm : p ∈ s.waiting := List.mem_of_getElem? hk
    refine ⟨r1, ?_, fun p' hp' => r3 p' (List.mem_of_mem_eraseIdx hp'), r4.eraseIdx k, r5⟩
    intro p' pc c hh
    cases hh
    refine ⟨(r3 p hm).1, fun hm' => ?_, fun _ i ci hi hpub => absurd hpub ((r3 p hm).2 i ci hi), nofun⟩
    -- `p` stood at position `k` only
    obtain ⟨i, hne, hi⟩ := List.mem_eraseIdx_iff_getElem?.mp hm'
    have hil : i < s.waiting.length := (List.getElem?_eq_some_iff.mp hi).1
    exact hne ((List.getElem?_inj hil r4).mp (by rw [hi, hk]))
  | sCheck hh _ =>
    obtain ⟨a1, a2, a3, _⟩ := r2 _ _ _ hh
    exact redOk_holder h (fun _ _ _ e => by cases e; exact ⟨a1, a2, fun _ => a3 (.inl rfl), nofun⟩)
  | @sTop p c hh _ =>
    obtain ⟨a1, a2, a3, _⟩ := r2 p .top c hh
    have hall := a3 (Or.inr rfl)
    refine ⟨?_, ?_, ?_, r4, ?_⟩
    · intro i j ci cj hij hi hj hp
      rcases get_append_cases _ _ _ _ hj with ⟨hjl, hj0⟩ | ⟨hje, rfl⟩
      · rw [List.getElem?_append_left (Nat.lt_trans hij hjl)] at hi
        exact r1 i j ci cj hij hi hj0 hp
      · rw [List.getElem?_append_left (hje ▸ hij)] at hi
        exact hall i ci hi hp
    · intro p' pc c' hh'
      cases hh'
      exact ⟨a1, a2, nofun, fun _ => ⟨(List.length_append (bs := [_])).symm, _, List.getElem?_concat_length, rfl⟩⟩
    · exact fun p' hp' => ⟨(r3 p' hp').1, forall_append (r3 p' hp').2 _ fun (hx : p = p') => a2 (hx ▸ hp')⟩
    · exact forall_append r5 _ a1
  | @sendDirect p c hh _ _ | @sendBuf p c hh _ _ _ =>
    -- first the holder's program counter (same clause), then the frame lemma
    obtain ⟨a1, a2, _, a4⟩ := r2 _ _ _ hh
    have h1 : RedOk { s with holder := .sender p .waitSettle c } :=
      redOk_holder h (fun _ _ _ e => by cases e; exact ⟨a1, a2, nofun, fun _ => a4 (.inl rfl)⟩)
    exact redOk_modify h1 rfl rfl rfl rfl (fun _ => ⟨rfl, id⟩)
  | leave _ _ | tdLock _ _ | tdClose _ _ => exact redOk_holder h nofun
  | @sObsNack p c cp hh hcp hnack =>
    obtain ⟨a1, a2, _, a4⟩ := r2 p .waitSettle c hh
    obtain ⟨hlen, cp', hcp', hpub'⟩ := a4 (Or.inr rfl)
    rw [hcp] at hcp'; cases hcp'
    refine redOk_holder h (fun _ _ _ e => ?_)
    cases e
    refine ⟨a1, a2, fun _ i ci hi hpub => ?_, nofun⟩
    -- the current copy is the last one and nacked; the earlier ones are nacked because it exists
    have hil : i < c + 1 := hlen ▸ (List.getElem?_eq_some_iff.mp hi).1
    by_cases hic : i = c
    · subst hic; rw [hcp] at hi; cases hi; exact hnack
    · exact r1 i c ci cp (Nat.lt_of_le_of_ne (Nat.le_of_lt_succ hil) hic) hi hcp (by rw [hpub, hpub'])
  | recv _ => exact redOk_modify h rfl rfl rfl rfl (fun _ => ⟨rfl, id⟩)
  | settle _ _ _ =>
    exact redOk_modify h rfl rfl rfl rfl (fun cp => ⟨rfl, fun hn => settle_settled hn nofun⟩)
  | _ => exact h

end Wm.GcSub
