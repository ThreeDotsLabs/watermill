/-
  C03 – Message Ack/Nack is a linearizable first-wins state machine.
  Model: `WmModel/Ack.lean`.  All statements quantify over every finite
  sequence of calls (= every linearisation of every concurrent history, since each call is atomic
  under `ackMutex`) on each of the three ways a message can be built.
  The state after any sequence of calls is a function of the way the message was built and of the first settle
  call (`run_init`); the theorems are read off that closed form and the nine-state table `step_after`.
-/
import WmModel.Ack
namespace Wm.Ack

/-- the reachable states in closed form: a message built the `k` way whose first settle call was `w` (`none`: not
    settled yet) has `sent = w` and exactly the matching channel closed -/
def after (k : Kind) : Sent → St
  | .none => initSt k
  | .ack  => { initSt k with sent := .ack, ackCh := .closed }
  | .nack => { initSt k with sent := .nack, nackCh := .closed }

theorem after_sent (k : Kind) (w : Sent) : (after k w).sent = w := by
  cases k <;> cases w <;> rfl

/-- the transition table on the reachable states: a settled state does not move, an unsettled one takes the
    settlement of the call (if it is a settle call) -/
theorem step_after (k : Kind) (w : Sent) (o : Op) :
    (step (after k w) o).1 = after k (if w = .none then firstSettle [o] else w) := by
  cases k <;> cases w <;> cases o <;> rfl

/-- … and what the settle calls return there: whether the message is (now) settled their way -/
theorem step_after_result (k : Kind) (w : Sent) :
    (step (after k w) .ack).2 = .bool (w ≠ .nack) ∧ (step (after k w) .nack).2 = .bool (w ≠ .ack) := by
  cases k <;> cases w <;> exact ⟨rfl, rfl⟩

theorem firstSettle_append (a b : List Op) :
    firstSettle (a ++ b) = if firstSettle a = .none then firstSettle b else firstSettle a := by
  induction a with
  | nil => rfl
  | cons o r ih =>
    cases o
    · rfl
    · rfl
    · exact ih
    · exact ih

theorem run_after (k : Kind) (w : Sent) (ops : List Op) :
    (run (after k w) ops).1 = after k (if w = .none then firstSettle ops else w) ∧
    Res.panic ∉ (run (after k w) ops).2 := by
  induction ops generalizing w with
  | nil => exact ⟨by cases w <;> rfl, by simp [run]⟩
  | cons o rest ih =>
    have ih := ih (if w = .none then firstSettle [o] else w)
    rw [← step_after] at ih
    simp only [run, List.mem_cons, not_or]
    refine ⟨?_, ?_, ih.2⟩
    · rw [ih.1]; cases w <;> cases o <;> rfl
    · cases k <;> cases w <;> cases o <;> exact Res.noConfusion

/-- **every reachable state is determined by the first settle call** -/
theorem run_init (k : Kind) (ops : List Op) : (run (initSt k) ops).1 = after k (firstSettle ops) :=
  (run_after k .none ops).1

/-- **never panics, never blocks**: every call in every sequence on every kind of message returns a value -/
theorem never_panics (k : Kind) (ops : List Op) : Res.panic ∉ (run (initSt k) ops).2 :=
  (run_after k .none ops).2

/-- **first wins**: the final settlement is the first Ack/Nack of the sequence, whatever follows -/
theorem first_wins (k : Kind) (ops : List Op) :
    (run (initSt k) ops).1.sent = firstSettle ops := by
  rw [run_init, after_sent]

/-- result of `o` issued after the calls `pre` -/
def resultAfter (k : Kind) (pre : List Op) (o : Op) : Res :=
  (step (run (initSt k) pre).1 o).2

/-- **Ack returns true exactly when the message is (now) acked** -/
theorem ack_true_iff (k : Kind) (pre : List Op) :
    resultAfter k pre .ack = .bool (firstSettle (pre ++ [.ack]) = .ack) := by
  rw [resultAfter, run_init, (step_after_result k _).1, firstSettle_append]
  cases firstSettle pre <;> rfl

/-- **Nack returns true exactly when the message is (now) nacked** -/
theorem nack_true_iff (k : Kind) (pre : List Op) :
    resultAfter k pre .nack = .bool (firstSettle (pre ++ [.nack]) = .nack) := by
  rw [resultAfter, run_init, (step_after_result k _).2, firstSettle_append]
  cases firstSettle pre <;> rfl

/-- **repeated calls change nothing**: once settled, no call changes the state -/
theorem settled_frozen (k : Kind) (pre : List Op) (o : Op)
    (h : (run (initSt k) pre).1.sent ≠ .none) :
    (step (run (initSt k) pre).1 o).1 = (run (initSt k) pre).1 := by
  rw [run_init, after_sent] at *
  rw [step_after, if_neg h]

/-- idempotence in the usual form: doing the same settle call twice = doing it once -/
theorem idempotent (k : Kind) (pre : List Op) (o : Op) :
    (run (initSt k) (pre ++ [o, o])).1 = (run (initSt k) (pre ++ [o])).1 ∧
    (o = .ack ∨ o = .nack → resultAfter k (pre ++ [o]) o = resultAfter k pre o) := by
  have h2 : firstSettle (pre ++ [o, o]) = firstSettle (pre ++ [o]) := by
    rw [firstSettle_append, firstSettle_append]; cases o <;> rfl
  refine ⟨by rw [run_init, run_init, h2], ?_⟩
  rintro (rfl | rfl)
  · rw [ack_true_iff, ack_true_iff, List.append_assoc, List.singleton_append, h2]
  · rw [nack_true_iff, nack_true_iff, List.append_assoc, List.singleton_append, h2]

/-- **exactly the matching channel is closed, never both** (in every reachable state) -/
theorem chan_closed_iff (k : Kind) (ops : List Op) :
    let s := (run (initSt k) ops).1
    (s.ackCh = .closed ↔ s.sent = .ack) ∧ (s.nackCh = .closed ↔ s.sent = .nack) ∧
    ¬ (s.ackCh = .closed ∧ s.nackCh = .closed) := by
  rw [run_init]
  cases k <;> cases firstSettle ops <;> decide

/-- what `Acked()`/`Nacked()` show after `pre`: closed iff that settlement won -/
theorem read_closed_iff (k : Kind) (pre : List Op) :
    (resultAfter k pre .readAcked = .chan .closed ↔ firstSettle pre = .ack) ∧
    (resultAfter k pre .readNacked = .chan .closed ↔ firstSettle pre = .nack) := by
  simp only [resultAfter, step, run_init]
  cases k <;> cases firstSettle pre <;> decide

theorem run_append (s : St) (a b : List Op) :
    (run s (a ++ b)).1 = (run (run s a).1 b).1 := by
  induction a generalizing s with
  | nil => simp [run]
  | cons o r ih => simp [run, ih]

/-- result of the `i`-th call of a sequence -/
theorem run_results_get (s : St) (ops : List Op) (i : Nat) (hi : i < ops.length) :
    (run s ops).2[i]? = some (step (run s (ops.take i)).1 ops[i]).2 := by
  induction ops generalizing s i with
  | nil => simp at hi
  | cons o rest ih =>
    cases i with
    | zero => simp [run]
    | succ j =>
      have hj : j < rest.length := by simpa using hi
      simp [run, ih (step s o).1 j hj]

theorem firstSettle_append_of_ne (a b : List Op) (h : firstSettle a ≠ .none) :
    firstSettle (a ++ b) = firstSettle a := by
  rw [firstSettle_append, if_neg h]

/-- a settle call decides the whole sequence as it decides the calls up to itself -/
theorem firstSettle_take_settle (ops : List Op) (i : Nat) (hi : i < ops.length)
    (hs : ops[i] = .ack ∨ ops[i] = .nack) :
    firstSettle (ops.take i ++ [ops[i]]) = firstSettle ops := by
  have hne : firstSettle (ops.take i ++ [ops[i]]) ≠ .none := by
    rw [firstSettle_append]
    rcases hs with h | h <;> rw [h] <;> cases firstSettle (ops.take i) <;> decide
  conv => rhs; rw [← List.take_append_drop (i + 1) ops, ← List.take_append_getElem hi]
  rw [firstSettle_append_of_ne _ _ hne]

/-- **all callers observe the same winner**: in every linearisation `ops` of any set of concurrent
    calls, *every* Ack call returns `winner = ack` and *every* Nack call returns `winner = nack`,
    where the winner is the settlement the message ends in. -/
theorem concurrent_same_winner (k : Kind) (ops : List Op) (i : Nat) (hi : i < ops.length) :
    (ops[i] = .ack  → (run (initSt k) ops).2[i]? = some (.bool (firstSettle ops = .ack))) ∧
    (ops[i] = .nack → (run (initSt k) ops).2[i]? = some (.bool (firstSettle ops = .nack))) := by
  have hr := run_results_get (initSt k) ops i hi
  constructor
  · intro h
    have := ack_true_iff k (ops.take i)
    unfold resultAfter at this
    rw [hr, h, this, ← h, firstSettle_take_settle ops i hi (Or.inl h)]
  · intro h
    have := nack_true_iff k (ops.take i)
    unfold resultAfter at this
    rw [hr, h, this, ← h, firstSettle_take_settle ops i hi (Or.inr h)]

/-! non-vacuity: concrete non-trivial sequences -/
example : (run (initSt .zero) [.nack, .ack, .readAcked, .readNacked, .nack]).2 =
    [.bool true, .bool false, .chan .nil, .chan .closed, .bool true] := by decide
example : firstSettle [.readAcked, .nack, .ack] = .nack := by decide
example : (run (initSt .new) [.ack, .nack, .ack]).1 = ⟨.ack, .closed, .opn⟩ := by decide

end Wm.Ack
