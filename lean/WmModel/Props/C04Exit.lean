/-
  C04/C05 – why a sender goroutine of a subscription ends (model M_sub), for every reachable state:
  a sender ends with `acked` only after a copy of *its* publication was put into the output channel, received by the
  consumer and acked; with `closing`/`closed` only when the subscription is closing/closed; and every publication's
  sender ends at most once.  Together with M_reg (`blocking_publish_waits`: a blocking Publish proceeds only when its
  dispatcher's senders are done or the Pub/Sub is closing) this is "Publish returns only after every subscription that was
  active for the message has Acked it (or that subscription or the Pub/Sub was closed)".
-/
import WmModel.Lemmas.GcSubExit
import WmModel.Props.C04
namespace Wm.GcSub
open Wm.Lts

theorem reach_exit (cap : Nat) : ∀ s, Reach (sys cap) s → ExitOk s :=
  inv_of_step' (sys cap) ExitOk (ex_init cap) (fun s a s' hr h ha => ex_step s a s' (reach_red cap s hr) h ha)

/-- **a sender that ended with "acked" delivered its message**: some copy of that publication was put into the
    output channel, received by the consumer, and acked -/
theorem acked_exit_means_delivered_and_acked (cap : Nat) (s : St) (h : Reach (sys cap) s) (p : Nat)
    (he : (p, Exit.acked) ∈ s.exits) :
    ∃ (c : Nat) (cp : Copy), s.copies[c]? = some cp ∧ cp.pub = p ∧ cp.delivered = true ∧ cp.received = true ∧
      cp.settle = .ack := by
  obtain ⟨c, cp, hc, hp, ha⟩ := (reach_exit cap s h).1 p he
  have ⟨k1, k2⟩ := (reach_copy cap s h).1 c cp hc
  have hr : cp.received = true := k2 (by rw [ha]; intro hx; cases hx)
  exact ⟨c, cp, hc, hp, k1 hr, hr, ha⟩

/-- a sender gives up without an ack only when the subscription is closing or closed -/
theorem unacked_exit_means_closing (cap : Nat) (s : St) (h : Reach (sys cap) s) (p : Nat) (r : Exit)
    (he : (p, r) ∈ s.exits) (hr : r ≠ .acked) : s.closing = true ∨ s.closed = true := by
  cases r with
  | acked => exact absurd rfl hr
  | closing => exact Or.inl ((reach_exit cap s h).2.1 p he)
  | closed => exact Or.inr ((reach_exit cap s h).2.2.1 p he)

/-- every publication's sender ends at most once, and is then neither queued nor holding the lock -/
theorem sender_exits_once (cap : Nat) (s : St) (h : Reach (sys cap) s) :
    (s.exits.map (·.1)).Nodup ∧
    ∀ p r, (p, r) ∈ s.exits → p ∉ s.waiting ∧ ∀ pc c, s.holder ≠ .sender p pc c :=
  ⟨(reach_exit cap s h).2.2.2.2, fun p r he => ((reach_exit cap s h).2.2.2.1 p r he).2⟩

end Wm.GcSub
