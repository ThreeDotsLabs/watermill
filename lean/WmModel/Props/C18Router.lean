/-
  C18 – the last effect of `Wm.ReqReply.command` ("the command processor / Router settle the command message: error ⇒ Nack,
  nil ⇒ Ack") is *derived* from the model of `handler.handleMessage` (WmModel/Handle.lean, tied to the Go source by
  `Props/C02Tie.lean`) and the settlement model of C03: the settlement the subscriber sees after `handleMessage` ran a
  handler closure that returns what `OnCommandProcessed` returned is the `.ack`/`.nack` the request-reply model appends –
  and it comes after every effect of `OnCommandProcessed` (reply published before the command is settled).
-/
import WmModel.ReqReply
import WmModel.Props.C02
namespace Wm.ReqReply
open Wm.Handle (Cfg PubOutcome handle sentAfter)

/-- the command processor's router handler returns no messages; its error is the one `OnCommandProcessed` returned -/
def closureResult (err : Bool) : Handle.Result Unit := .returns [] err

/-- **the settle effect of `command` is what `handleMessage` does with the closure's result** -/
theorem command_settle_eq_handle (k : Ack.Kind) (c : Cfg) (pb : PubOutcome) (ackErrs : Bool) (pre : Pre) (op : Nat)
    (o : HOut) (p : PubRes) :
    command ackErrs pre op o p = (onCommandProcessed ackErrs pre op o p).1 ++
      [if sentAfter k (handle c ⟨none, closureResult (onCommandProcessed ackErrs pre op o p).2⟩ pb) = .ack
       then .ack else .nack] := by
  rw [Handle.sentAfter_handle]
  unfold command
  simp only
  cases (onCommandProcessed ackErrs pre op o p).2 <;> rfl

example : sentAfter .new (handle ⟨.disabled, ""⟩ ⟨none, closureResult true⟩ .accept) = .nack := by decide

end Wm.ReqReply
