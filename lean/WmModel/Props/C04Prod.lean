/-
  C04, delivery – end to end on the composition M_prod = M_reg ∥ M_sub(me) (`me` an arbitrary subscription id): "Every
  message whose Publish call succeeded is delivered … to every subscription of that topic that existed when Publish was
  called and stays open, and to no subscription of another topic."  The `sendMessage` step for a message starts a sender
  in `me`'s M_sub instance when `me` is registered for the topic and nothing when it is registered for another; a sender
  once started is never lost (M_sub invariant `AccOk`), and by `Props/C04Exit.lean` it ends only `acked`, after a copy of
  its publication was delivered, received and acked, or because the subscription is closing / closed: a message sent to
  an open subscription is not given up before its Ack.
-/
import WmModel.Lemmas.GcSubAcc
import WmModel.Props.C05Serial
namespace Wm.GcSub
open Wm Wm.Lts

theorem reach_acc (cap : Nat) : ∀ s, Reach (sys cap) s → AccOk s :=
  inv_of_step' (sys cap) AccOk (acc_init cap) (fun s a s' hr h ha => acc_step s a s' (reach_ctl cap s hr) h ha)

end Wm.GcSub

namespace Wm.GcProd
open Wm Wm.Lts

/-- **a message handed over while `me` is registered for its topic gets a sender in `me`'s subscription** -/
theorem send_starts_sender_for_registered (me cap : Nat) (cfg : GcReg.Cfg) (s s' : St) (h : Reach (sys me cap cfg) s)
    (i t m : Nat) (rest : List Nat) (ao : Option (Nat × Nat))
    (hth : s.reg.ths[i]? = some (.pub t (m :: rest) .send ao)) (hsub : (me, t) ∈ s.reg.subs)
    (hact : act me cap s (.reg (.step i)) = some s') :
    ∃ q, s.sub = some q ∧ s'.sub = some (spawnSt q) ∧ s'.snd = s.snd ++ [(some s.reg.disp.length, m, q.nextPub)] := by
  have hin : me ∈ GcReg.subsOf s.reg t := (GcReg.mem_subsOf s.reg t me).mpr hsub
  have hsome : s.sub.isSome = true :=
    (reach_link me cap cfg s h).created.mpr ((GcReg.reach_aux cfg s.reg (reach_reg me cap cfg s h)).1 me t hsub)
  obtain ⟨r', x', _, he, rfl⟩ := act_reg hact
  rw [effect_send hth, if_pos hin] at he
  obtain rfl := Option.some.inj he
  cases hq : s.sub with
  | none => rw [hq] at hsome; cases hsome
  | some q => exact ⟨q, rfl, rfl, rfl⟩

/-- **… and a subscription of another topic gets nothing** -/
theorem send_starts_nothing_for_other_topics (me cap : Nat) (cfg : GcReg.Cfg) (s s' : St) (h : Reach (sys me cap cfg) s)
    (i t t' m : Nat) (rest : List Nat) (ao : Option (Nat × Nat))
    (hth : s.reg.ths[i]? = some (.pub t (m :: rest) .send ao)) (hsub : (me, t') ∈ s.reg.subs) (hne : t' ≠ t)
    (hact : act me cap s (.reg (.step i)) = some s') : s'.sub = s.sub ∧ s'.snd = s.snd := by
  have hnin : me ∉ GcReg.subsOf s.reg t := fun hin =>
    hne ((GcReg.reach_aux cfg s.reg (reach_reg me cap cfg s h)).2.2.2.1 me t' t hsub ((GcReg.mem_subsOf s.reg t me).mp hin))
  obtain ⟨r', x', _, he, rfl⟩ := act_reg hact
  rw [effect_send hth, if_neg hnin] at he
  obtain rfl := Option.some.inj he
  exact ⟨rfl, rfl⟩

/-- **no sender goroutine is lost**: every sender ever started for `me` is waiting for the mutex, holding it, or has ended -/
theorem no_sender_is_lost (me cap : Nat) (cfg : GcReg.Cfg) (s : St) (h : Reach (sys me cap cfg) s) (q : GcSub.St)
    (hq : s.sub = some q) (od : Option Nat) (m p : Nat) (hm : (od, m, p) ∈ s.snd) : GcSub.Accounted q p := by
  have hl := reach_link me cap cfg s h
  have hp : p ∈ s.snd.map (·.2.2) := List.mem_map.mpr ⟨(od, m, p), hm, rfl⟩
  rw [hl.pubs q hq] at hp
  exact GcSub.reach_acc cap q (reach_sub me cap cfg s h q hq) p (List.mem_range.mp hp)

/-- the run of `prod_witness` (Props/C05Prod.lean): the sender of message 7 was started, delivered, acked and ended `acked` -/
theorem delivery_witness :
    ∃ s q, exec (sys 0 0 ⟨true, false⟩) (init ⟨true, false⟩) prodRun = some s ∧ s.sub = some q ∧
      s.snd = [(some 0, 7, 0)] ∧ GcSub.Accounted q 0 ∧ q.exits = [(0, .acked)] := by
  refine ⟨_, _, rfl, rfl, ?_, ?_, ?_⟩
  · decide
  · exact Or.inr (Or.inr ⟨.acked, by decide⟩)
  · decide

end Wm.GcProd
