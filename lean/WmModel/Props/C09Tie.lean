/-
  C09 – generated tie: the shapes of the three loops extracted from the current message/router.go
  (`WmModel/Gen/ChainLoops.lean`, rewritten by the extractor on every run), interpreted by `WmModel/ChainGo.lean`,
  compute the same function as the hand-written model for ALL middleware lists / decorator lists, names and
  wrapped objects.
  Proofs: the model's loops are the interpreter's index loops `idxDown`/`idxUp` (induction); the ties then hold by
  computation, the filter by its truth table (so that an equivalent way of writing it still checks).
-/
import WmModel.ChainGo
import WmModel.Gen.ChainLoops
namespace Wm.ChainGo
open Wm.Chain
set_option linter.unusedSimpArgs false   -- `bne`: the filter may be written with `!=` as well

theorem wrapLoop_eq_idxDown (name : String) (mws : List (Mw α)) (i : Nat) (acc : α) :
    wrapLoop name mws i acc = idxDown (applies name) (fun m a => m.fn a) mws i acc := by
  induction i generalizing acc with
  | zero => rfl
  | succ i ih => rw [wrapLoop, idxDown]; cases mws[i]? <;> exact ih _

theorem loopDown_eq_idxDown (fs : List (α → α)) (i : Nat) (acc : α) :
    loopDown fs i acc = idxDown (fun _ => true) (fun f a => f a) fs i acc := by
  induction i generalizing acc with
  | zero => rfl
  | succ i ih => rw [loopDown, idxDown]; cases fs[i]? <;> exact ih _

theorem loopUp_eq_idxUp (fs : List (α → α)) (acc : α) :
    loopUp fs acc = idxUp (fun _ => true) (fun f a => f a) fs acc := by
  induction fs generalizing acc with
  | nil => rfl
  | cons f rest ih => exact ih _

/-- the filter written in the source decides exactly `IsRouterLevel || HandlerName == h.name` -/
theorem extracted_filter_eq_model (name : String) (m : Mw α) :
    Gen.mwLoop.filter.known = true ∧ evalF name m Gen.mwLoop.filter = applies name m := by
  constructor
  · rfl
  · cases h1 : m.isRouterLevel <;> cases h2 : (m.handlerName == name) <;>
      simp [Gen.mwLoop, evalF, applies, h1, h2, bne]

/-- **tie**: `handler.run`'s wrap loop as it stands in the source = `Wm.Chain.wrap` -/
theorem extracted_wrap_loop_eq_model (name : String) (mws : List (Mw α)) (h : α) :
    runMwLoop Gen.mwLoop name mws h = some (wrap name mws h) := by
  have hf : (fun m : Mw α => evalF name m Gen.mwLoop.filter) = applies name :=
    funext fun m => (extracted_filter_eq_model name m).2
  show some (idxDown (fun m => evalF name m Gen.mwLoop.filter) (fun m a => m.fn a) mws mws.length h) = _
  rw [hf, wrap, wrapLoop_eq_idxDown]

/-- **tie**: `decorateHandlerPublisher`'s loop = `Wm.Chain.decoratePublisher` -/
theorem extracted_pubdec_loop_eq_model (decs : List (α → α)) (pub : α) :
    runDecLoop Gen.pubDecLoop decs pub = some (decoratePublisher decs pub) :=
  (congrArg some (loopDown_eq_idxDown decs decs.length pub)).symm

/-- **tie**: `decorateHandlerPublisher` as a whole, on a handler's publisher field that may be nil: the source begins
    with the nil guard (`Gen.pubDecNilGuard`), so a handler without a publisher is NOT decorated – whatever the decorators
    would make of a nil publisher (`onNil`) – and one with a publisher gets `Wm.Chain.decoratePublisher` -/
theorem extracted_pubdec_nil_guard_eq_model (decs : List (α → α)) (onNil : Option α) (pub : Option α) :
    runPubDecorate Gen.pubDecNilGuard Gen.pubDecLoop decs onNil pub = some (decorateHandlerPublisher decs pub) := by
  cases pub with
  | none => rfl
  | some p => exact congrArg (Option.map some) (extracted_pubdec_loop_eq_model decs p)

/-- **tie**: `decorateHandlerSubscriber` = context decorator first, then the loop = `Wm.Chain.decorateSubscriber` -/
theorem extracted_subdec_loop_eq_model (ctxD : α → α) (decs : List (α → α)) (sub : α) :
    Gen.subCtxFirst = true ∧
    runDecLoop Gen.subDecLoop decs (ctxD sub) = some (decorateSubscriber ctxD decs sub) := by
  constructor
  · rfl
  · simp [runDecLoop, runLoop, Gen.subDecLoop, decorateSubscriber, loopUp_eq_idxUp]

end Wm.ChainGo
