/-
  The lemma base of C14 (Deduplicator).  What one critical section does to the entries of a key; what a run does to
  them – an entry comes only from the initial repository or an accepted arrival (`mem_run_inv`) and goes only through
  a clean-up whose tick is past it (`mem_run`); the decorator's loop as a run of the repository (`decLoop_keyed`).
  Property theorems: `WmModel/Props/C14.lean`.
-/
import WmModel.Dedup
set_option linter.unusedSectionVars false
namespace Wm.Dedup

variable {κ : Type} [DecidableEq κ]

def absent (r : Repo κ) (k : κ) : Prop := ∀ e, (k, e) ∉ r

def AllAt (r : Repo κ) (k : κ) (e : Nat) : Prop := ∀ e', (k, e') ∈ r → e' = e

theorem allAt_of_absent (r : Repo κ) (k : κ) (e : Nat) (h : absent r k) : AllAt r k e :=
  fun e' hm => absurd hm (h e')

variable {w : Nat} {r : Repo κ} {k : κ} {e : Nat} {o : Op κ} {ops : List (Op κ)}

/-! ### one critical section -/

theorem present_iff : present r k = true ↔ ∃ e, (k, e) ∈ r := by
  simp [present]

theorem present_false_iff : present r k = false ↔ absent r k := by
  rw [← Bool.not_eq_true, present_iff]
  simp [absent]

theorem present_cons_self : present ((k, e) :: r) k = true := by
  simp [present]

theorem isDup_present {now : Nat} (h : present r k = true) : isDup w r k now = (r, true) := by
  simp [isDup, h]

theorem isDup_absent {now : Nat} (h : present r k = false) : isDup w r k now = ((k, now + w) :: r, false) := by
  simp [isDup, h]

theorem isDup_snd {now : Nat} : (isDup w r k now).2 = present r k := by
  cases h : present r k <;> simp [isDup, h]

theorem mem_isDup {now : Nat} {x : κ × Nat} :
    x ∈ (isDup w r k now).1 ↔ x ∈ r ∨ present r k = false ∧ x = (k, now + w) := by
  cases h : present r k <;> simp [isDup, h, or_comm]

theorem mem_cleanOut {tick : Nat} {x : κ × Nat} : x ∈ cleanOut r tick ↔ x ∈ r ∧ ¬ x.2 < tick := by
  simp [cleanOut]

theorem step_arrive {t : Nat} : step w r (.arrive k t) = ((isDup w r k t).1, .verdict (isDup w r k t).2) := rfl

theorem step_clean {tick tm : Nat} : step w r (.clean tick tm) = (cleanOut r tick, .cleaned) := rfl

theorem mem_step (h : (k, e) ∈ r) (ho : ∀ tick tm, o = .clean tick tm → tick ≤ e) : (k, e) ∈ (step w r o).1 := by
  cases o with
  | arrive k' t => exact mem_isDup.mpr (Or.inl h)
  | clean tick tm => exact mem_cleanOut.mpr ⟨h, Nat.not_lt.mpr (ho tick tm rfl)⟩

theorem mem_step_inv (h : (k, e) ∈ (step w r o).1) :
    (k, e) ∈ r ∨ ∃ t, o = .arrive k t ∧ present r k = false ∧ e = t + w := by
  cases o with
  | arrive k' t =>
    rcases mem_isDup.mp h with h | ⟨hp, heq⟩
    · exact Or.inl h
    · cases heq; exact Or.inr ⟨t, rfl, hp, rfl⟩
  | clean tick tm => exact Or.inl (mem_cleanOut.mp h).1

theorem absent_step (h : absent r k) (ho : ∀ t, o ≠ .arrive k t) : absent (step w r o).1 k :=
  fun e hm => (mem_step_inv hm).elim (h e) fun ⟨t, hot, _⟩ => ho t hot

/-! ### runs -/

theorem run_nil : run w r [] = (r, []) := rfl

theorem run_cons {rest : List (Op κ)} :
    run w r (o :: rest) = ((run w (step w r o).1 rest).1, (step w r o).2 :: (run w (step w r o).1 rest).2) := rfl

theorem run_length : (run w r ops).2.length = ops.length := by
  induction ops generalizing r with
  | nil => rfl
  | cons o rest ih => simp [run_cons, ih]

theorem run_append {a b : List (Op κ)} :
    run w r (a ++ b) = ((run w (run w r a).1 b).1, (run w r a).2 ++ (run w (run w r a).1 b).2) := by
  induction a generalizing r with
  | nil => rfl
  | cons o rest ih => simp [run_cons, ih]

theorem run_getElem? {j : Nat} :
    (run w r ops).2[j]? = ops[j]?.map fun o => (step w (run w r (ops.take j)).1 o).2 := by
  induction ops generalizing r j with
  | nil => rfl
  | cons o rest ih => cases j with
    | zero => rfl
    | succ j => exact ih

variable {j t : Nat}

theorem run_getElem?_arrive (h : ops[j]? = some (.arrive k t)) :
    (run w r ops).2[j]? = some (.verdict (present (run w r (ops.take j)).1 k)) := by
  rw [run_getElem?, h, Option.map_some, step_arrive, isDup_snd]

theorem acceptedFrom_iff :
    acceptedFrom w r ops j k t ↔ ops[j]? = some (.arrive k t) ∧ present (run w r (ops.take j)).1 k = false :=
  and_congr_right fun h => by rw [run_getElem?_arrive h]; simp

theorem acceptedFrom_cons_zero {rest : List (Op κ)} :
    acceptedFrom w r (o :: rest) 0 k t ↔ o = .arrive k t ∧ present r k = false := by
  simp [acceptedFrom_iff, run_nil]

theorem acceptedFrom_cons_succ {rest : List (Op κ)} :
    acceptedFrom w r (o :: rest) (j + 1) k t ↔ acceptedFrom w (step w r o).1 rest j k t := by
  simp [acceptedFrom_iff, run_cons]

theorem acceptedFrom_append_right {a b : List (Op κ)} :
    acceptedFrom w r (a ++ b) (a.length + j) k t ↔ acceptedFrom w (run w r a).1 b j k t := by
  rw [acceptedFrom_iff, acceptedFrom_iff, List.take_length_add_append, run_append,
    List.getElem?_append_right (Nat.le_add_right _ _), Nat.add_sub_cancel_left]

theorem acceptedFrom_concat {a : List (Op κ)} :
    acceptedFrom w r (a ++ [.arrive k t]) a.length k t ↔ present (run w r a).1 k = false :=
  (acceptedFrom_append_right (j := 0)).trans (acceptedFrom_cons_zero.trans (and_iff_right rfl))

theorem acceptedFrom_append_left (w : Nat) (r : Repo κ) (a b : List (Op κ)) (i : Nat) (k : κ) (t : Nat)
    (hi : i < a.length) : acceptedFrom w r (a ++ b) i k t ↔ acceptedFrom w r a i k t := by
  rw [acceptedFrom_iff, acceptedFrom_iff, List.getElem?_append_left hi, List.take_append_of_le_length (Nat.le_of_lt hi)]

theorem mem_run_inv (h : (k, e) ∈ (run w r ops).1) : (k, e) ∈ r ∨ ∃ x t, acceptedFrom w r ops x k t ∧ e = t + w := by
  induction ops generalizing r with
  | nil => exact Or.inl h
  | cons o rest ih =>
    rcases ih h with h1 | ⟨x, t, hx, he⟩
    · rcases mem_step_inv h1 with h0 | ⟨t, ho, hp, he⟩
      · exact Or.inl h0
      · exact Or.inr ⟨0, t, acceptedFrom_cons_zero.mpr ⟨ho, hp⟩, he⟩
    · exact Or.inr ⟨x + 1, t, acceptedFrom_cons_succ.mpr hx, he⟩

theorem mem_run (h : (k, e) ∈ r) (hticks : ∀ tick tm, Op.clean tick tm ∈ ops → tick ≤ e) : (k, e) ∈ (run w r ops).1 := by
  induction ops generalizing r with
  | nil => exact h
  | cons o rest ih =>
    exact ih (mem_step h fun tick tm ho => hticks tick tm (ho ▸ List.mem_cons_self))
      fun tick tm hm => hticks tick tm (List.mem_cons_of_mem _ hm)

theorem cleaned_before_accept (hmem : (k, e) ∈ r) (hj : acceptedFrom w r ops j k t) :
    ∃ tick tm, Op.clean tick tm ∈ ops.take j ∧ e < tick := by
  refine Classical.byContradiction fun hno => ?_
  have hm : (k, e) ∈ (run w r (ops.take j)).1 :=
    mem_run hmem fun tick tm hc => Nat.le_of_not_lt fun hlt => hno ⟨tick, tm, hc, hlt⟩
  have hp := (acceptedFrom_iff.mp hj).2
  rw [present_iff.mpr ⟨e, hm⟩] at hp
  cases hp

theorem absent_after_clean {tick tm : Nat} {a b : List (Op κ)} (h : AllAt r k e)
    (hno : ∀ x t, ¬ acceptedFrom w r a x k t) (hexp : e < tick) (hfirst : ∀ t, Op.arrive k t ∉ b) :
    absent (run w r (a ++ .clean tick tm :: b)).1 k := by
  intro e' hm
  simp only [run_append, run_cons, step_clean] at hm
  rcases mem_run_inv hm with h1 | ⟨x, t, hx, _⟩
  · obtain ⟨h2, hge⟩ := mem_cleanOut.mp h1
    rcases mem_run_inv h2 with h3 | ⟨x, t, hx, _⟩
    · exact hge (h e' h3 ▸ hexp)
    · exact hno x t hx
  · exact hfirst t (List.mem_of_getElem? hx.1)

/-! ### well-timed histories -/

theorem wellTimedFrom_mono (t0 t1 : Nat) (ops : List (Op κ)) (h : WellTimedFrom t1 ops) (h01 : t0 ≤ t1) :
    WellTimedFrom t0 ops := by
  cases ops with
  | nil => trivial
  | cons x rest => exact ⟨Nat.le_trans h01 h.1, h.2⟩

variable {t0 : Nat}

theorem wellTimedFrom_mem (h : WellTimedFrom t0 ops) (ho : o ∈ ops) : t0 ≤ o.time ∧ o.tickOk := by
  induction ops generalizing t0 with
  | nil => cases ho
  | cons x rest ih =>
    rcases List.mem_cons.mp ho with rfl | ho
    · exact ⟨h.1, h.2.1⟩
    · exact (ih h.2.2 ho).imp_left (Nat.le_trans h.1)

theorem wellTimedFrom_take_le {o' : Op κ} (h : WellTimedFrom t0 ops) (hj : ops[j]? = some o') (ho : o ∈ ops.take j) :
    o.time ≤ o'.time := by
  induction ops generalizing t0 j with
  | nil => simp at hj
  | cons x rest ih =>
    cases j with
    | zero => cases ho
    | succ j =>
      rcases List.mem_cons.mp ho with rfl | ho
      · exact (wellTimedFrom_mem h.2.2 (List.mem_of_getElem? hj)).1
      · exact ih h.2.2 hj ho

/-- an entry goes only through a clean-up whose tick is past its expiry, and a tick is never ahead of the clock -/
theorem accept_after_entry (hmem : (k, e) ∈ r) (hwt : WellTimedFrom t0 ops) (hj : acceptedFrom w r ops j k t) : e < t := by
  obtain ⟨tick, tm, hc, hlt⟩ := cleaned_before_accept hmem hj
  have h1 : tick ≤ tm := (wellTimedFrom_mem hwt (List.mem_of_mem_take hc)).2
  have h2 : tm ≤ t := wellTimedFrom_take_le hwt hj.1 hc
  omega

/-! ### the verdicts on one key -/

variable {os os' : List (Op κ)} {x : Res} {rs rs' : List Res}

theorem verdictsOf_cons_arrive {k' : κ} {t : Nat} {b : Bool} :
    verdictsOf k (.arrive k' t :: os) (.verdict b :: rs) =
      if k' = k then b :: verdictsOf k os rs else verdictsOf k os rs := rfl

theorem verdictsOf_cons_other (ho : ∀ t, o ≠ .arrive k t) : verdictsOf k (o :: os) (x :: rs) = verdictsOf k os rs := by
  cases o with
  | clean tick tm => rfl
  | arrive k' t =>
    cases x with
    | cleaned => rfl
    | verdict b => exact if_neg fun h => ho t (by rw [h])

theorem verdictsOf_cons_congr (h : verdictsOf k os rs = verdictsOf k os' rs') :
    verdictsOf k (o :: os) (x :: rs) = verdictsOf k (o :: os') (x :: rs') := by
  cases o with
  | clean tick tm => exact h
  | arrive k' t =>
    cases x with
    | cleaned => exact h
    | verdict b => rw [verdictsOf_cons_arrive, verdictsOf_cons_arrive, h]

theorem no_accept_while_held (hmem : (k, e) ∈ r) (hticks : ∀ tick tm, Op.clean tick tm ∈ ops → tick ≤ e) :
    (verdictsOf k ops (run w r ops).2).count false = 0 := by
  induction ops generalizing r with
  | nil => rfl
  | cons o rest ih =>
    have hrest := ih (mem_step (w := w) hmem fun tick tm ho => hticks tick tm (ho ▸ List.mem_cons_self))
      fun tick tm hm => hticks tick tm (List.mem_cons_of_mem _ hm)
    rw [run_cons]
    by_cases ho : ∃ t, o = .arrive k t
    · obtain ⟨t, rfl⟩ := ho
      rwa [step_arrive, isDup_snd, present_iff.mpr ⟨e, hmem⟩, verdictsOf_cons_arrive, if_pos rfl]
    · rwa [verdictsOf_cons_other fun t h => ho ⟨t, h⟩]

/-! ### one key's part of the repository -/

theorem present_proj : present (proj k r) k = present r k := by
  simp [present, proj, List.any_filter]

theorem proj_cleanOut {tick : Nat} : proj k (cleanOut r tick) = cleanOut (proj k r) tick := by
  simp [proj, cleanOut, List.filter_filter, Bool.and_comm]

theorem step_proj_of_relevant (ho : relevant k o = true) :
    step w (proj k r) o = (proj k (step w r o).1, (step w r o).2) := by
  cases o with
  | arrive k' t =>
    cases of_decide_eq_true ho
    cases hp : present r k with
    | true => rw [step_arrive, step_arrive, isDup_present hp, isDup_present (present_proj.trans hp)]
    | false =>
      rw [step_arrive, step_arrive, isDup_absent hp, isDup_absent (present_proj.trans hp)]
      simp [proj]
  | clean tick tm => rw [step_clean, step_clean, proj_cleanOut]

theorem proj_step_of_irrelevant (ho : relevant k o = false) : proj k (step w r o).1 = proj k r := by
  cases o with
  | arrive k' t =>
    have hk : k' ≠ k := of_decide_eq_false ho
    cases hp : present r k' <;> simp [step_arrive, isDup, hp, proj, hk]
  | clean tick tm => cases ho

/-! ### batches of messages and their arrivals -/

variable {b : Bool} {m : PMsg κ} {msgs : List (PMsg κ)}

theorem sel_cons {i : Nat} {ids : List Nat} :
    sel b (i :: ids) (x :: rs) = if x = .verdict b then i :: sel b ids rs else sel b ids rs := rfl

theorem selMsgs_cons {ms : List (PMsg κ)} :
    selMsgs b (m :: ms) (x :: rs) = if x = .verdict b then m :: selMsgs b ms rs else selMsgs b ms rs := rfl

theorem arrivalsOf_cons_key {rest : List (PMsg κ)} (h : m.key = .key k) :
    arrivalsOf (m :: rest) = .arrive k m.now :: arrivalsOf rest := by
  rw [arrivalsOf, h]

theorem mem_arrivalsOf : o ∈ arrivalsOf msgs ↔ ∃ m ∈ msgs, ∃ k, m.key = .key k ∧ o = .arrive k m.now := by
  induction msgs with
  | nil => simp [arrivalsOf]
  | cons m rest ih => cases hk : m.key <;> simp [arrivalsOf, hk, ih]

theorem clean_not_mem_arrivalsOf {tick tm : Nat} : Op.clean tick tm ∉ arrivalsOf msgs :=
  fun h => by obtain ⟨_, _, _, _, h⟩ := mem_arrivalsOf.mp h; cases h

theorem arrivalsOf_append {a c : List (PMsg κ)} : arrivalsOf (a ++ c) = arrivalsOf a ++ arrivalsOf c := by
  induction a with
  | nil => rfl
  | cons m rest ih => cases hk : m.key <;> simp [arrivalsOf, hk, ih]

theorem arrivalsOf_length (h : ∀ m ∈ msgs, hasKey m = true) : (arrivalsOf msgs).length = msgs.length := by
  induction msgs with
  | nil => rfl
  | cons m rest ih =>
    cases hk : m.key with
    | err => simpa [hasKey, hk] using h m List.mem_cons_self
    | key k => simp [arrivalsOf, hk, ih fun x hx => h x (List.mem_cons_of_mem _ hx)]

/-! ### middleware -/

/-- the handler is invoked for the accepted arrivals, so what holds of runs of the repository holds of the middleware -/
theorem mwCalls_eq_count {calls : List (KeyRes κ × Nat)} :
    mwCalls w r k calls =
      (verdictsOf k (arrivalsOf (calls.map fun c => ⟨0, c.1, c.2⟩))
        (run w r (arrivalsOf (calls.map fun c => ⟨0, c.1, c.2⟩))).2).count false := by
  induction calls generalizing r with
  | nil => rfl
  | cons c rest ih =>
    obtain ⟨kr, now⟩ := c
    cases kr with
    | err => simp [mwCalls, middleware, dIsDup, mwDecide, arrivalsOf, ih]
    | key k' =>
      cases hp : present r k' <;>
        simp [mwCalls, middleware, dIsDup, isDup, mwDecide, arrivalsOf, run_cons, step_arrive, verdictsOf_cons_arrive,
          hp, ih] <;> split <;> simp [*, Nat.add_comm]

/-! ### the decorator's loop -/

variable {fw ak : List Nat}

theorem decLoop_cons_key {rest : List (PMsg κ)} (hk : m.key = .key k) :
    decLoop w r (m :: rest) fw ak =
      if present r k then decLoop w r rest fw (m.id :: ak) else decLoop w ((k, m.now + w) :: r) rest (m.id :: fw) ak := by
  cases hp : present r k <;> simp [decLoop, hk, dIsDup, isDup, hp]

theorem decLoop_keyed {pre rest : List (PMsg κ)} (h : ∀ m ∈ pre, hasKey m = true) :
    decLoop w r (pre ++ rest) fw ak =
      decLoop w (run w r (arrivalsOf pre)).1 rest
        ((sel false (pre.map (·.id)) (run w r (arrivalsOf pre)).2).reverse ++ fw)
        ((sel true (pre.map (·.id)) (run w r (arrivalsOf pre)).2).reverse ++ ak) := by
  induction pre generalizing r fw ak with
  | nil => rfl
  | cons m pre ih =>
    have ih := fun {r fw ak} => @ih r fw ak fun x hx => h x (List.mem_cons_of_mem _ hx)
    cases hk : m.key with
    | err => simpa [hasKey, hk] using h m List.mem_cons_self
    | key k =>
      rw [List.cons_append, decLoop_cons_key hk, arrivalsOf_cons_key hk, run_cons, step_arrive,
        List.map_cons, sel_cons, sel_cons]
      cases hp : present r k with
      | true => rw [isDup_present hp, if_pos rfl, ih]; simp
      | false => rw [isDup_absent hp, if_neg Bool.false_ne_true, ih]; simp

theorem decLoop_eq_decide :
    decLoop w r msgs fw ak = ((answers w r msgs).1, decDecide (answers w r msgs).2 fw ak) := by
  induction msgs generalizing r fw ak with
  | nil => rfl
  | cons m rest ih =>
    cases hk : m.key with
    | err => simp [decLoop, answers, hk, dIsDup, decDecide]
    | key k =>
      rw [decLoop_cons_key hk]
      cases hp : present r k <;> simp [answers, hk, dIsDup, isDup, hp, decDecide, ih]

/-! ### sequences of Publish calls -/

theorem sel_map_id :
    sel b (msgs.map (·.id)) rs = (selMsgs b msgs rs).map (·.id) := by
  induction msgs generalizing rs with
  | nil => rfl
  | cons m rest ih =>
    cases rs with
    | nil => rfl
    | cons x xs =>
      rw [List.map_cons, sel_cons, selMsgs_cons, ih]
      split <;> rfl

theorem selMsgs_append {a c : List (PMsg κ)} {r1 r2 : List Res} (h : r1.length = a.length) :
    selMsgs b (a ++ c) (r1 ++ r2) = selMsgs b a r1 ++ selMsgs b c r2 := by
  induction a generalizing r1 with
  | nil => cases r1 with
    | nil => rfl
    | cons x xs => cases h
  | cons m rest ih => cases r1 with
    | nil => cases h
    | cons x xs =>
      rw [List.cons_append, List.cons_append, selMsgs_cons, selMsgs_cons, ih (Nat.succ.inj h)]
      split <;> rfl

theorem selMsgs_count (h : ∀ m ∈ msgs, hasKey m = true) :
    ((selMsgs false msgs rs).filter (fun m => decide (m.key = .key k))).length =
      (verdictsOf k (arrivalsOf msgs) rs).count false := by
  induction msgs generalizing rs with
  | nil => cases rs <;> rfl
  | cons m rest ih =>
    have ih := fun {rs} => @ih rs fun x hx => h x (List.mem_cons_of_mem _ hx)
    cases hk : m.key with
    | err => simpa [hasKey, hk] using h m List.mem_cons_self
    | key k' =>
      rw [arrivalsOf_cons_key hk]
      cases rs with
      | nil => rfl
      | cons x xs =>
        rw [selMsgs_cons]
        cases x with
        | cleaned => exact ih
        | verdict b =>
          rw [verdictsOf_cons_arrive]
          cases b <;> by_cases hkk : k' = k <;> simp [hk, hkk, ih]

end Wm.Dedup
