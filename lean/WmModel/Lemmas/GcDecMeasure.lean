import WmModel.Lemmas.GcDecStep
namespace Wm.GcDec

/-- steps a thread can still take, not counting the messages waiting in its channel -/
def base : Th → Nat
  | .sub _ .inner => 8
  | .sub _ .lock => 7
  | .sub _ .add => 6
  | .sub _ .unlock => 5
  | .sub _ .spawn => 4
  | .sub _ .retOk => 0
  | .sub _ .retErr => 0
  | .closer .inner => 5
  | .closer .once => 4
  | .closer .lock => 3
  | .closer .wait => 2
  | .closer .unlock => 1
  | .closer .ret => 0
  | .pump _ .send _ _ _ => 4
  | .pump _ .recv _ _ _ => 3
  | .pump _ .closeOut _ _ _ => 2
  | .pump _ .wgDone _ _ _ => 1
  | .pump _ .done _ _ _ => 0

def pend (l : List In) : Nat := (l.map (·.pending)).sum

/-- potential: thread steps left plus two per message still waiting in an inner channel -/
def phi (s : St) : Nat := (s.ths.map base).sum + 2 * pend s.ins

theorem pend_set (l : List In) (k : Nat) (c c' : In) (h : l[k]? = some c) :
    pend (l.set k c') + c.pending = pend l + c'.pending :=
  sum_map_set (·.pending) l k c c' h

theorem pend_take (l : List In) (k : Nat) (c c' : In) (h : l[k]? = some c) (hp : c'.pending + 1 = c.pending) :
    pend (l.set k c') + 1 = pend l := by
  have := pend_set l k c c' h
  rw [← hp, ← Nat.add_assoc, Nat.add_right_comm] at this
  exact Nat.add_right_cancel this

theorem pend_close (l : List In) : pend (l.map (fun c => { c with isOpen := false })) = pend l := by
  induction l with
  | nil => rfl
  | cons a r ih => simp only [pend, List.map_cons, List.sum_cons] at ih ⊢; omega

theorem pend_append (l : List In) (c : In) : pend (l ++ [c]) = pend l + c.pending := by
  simp [pend]

/-- thread `i` moves and `p` waiting messages are taken: the potential falls by `n` if the thread's own count falls by
    `n` more than the `2 * p` it is refunded (`+ 0`: the shape the goals of `phi_act` have) -/
theorem phi_set (s u : St) (i : Nat) (old new : Th) (hold : s.ths[i]? = some old) (hths : u.ths = s.ths.set i new)
    (p : Nat) (hp : pend u.ins + p = pend s.ins) {n : Nat} (hd : base new + n ≤ base old + 2 * p) :
    phi u + n ≤ phi s + 0 := by
  have := sum_map_set base s.ths i old new hold
  unfold phi; rw [hths]; omega

/-- the common case: no message taken, `hd` a Boolean test that `rfl` decides for concrete threads -/
theorem phi_set_keep (s u : St) (i : Nat) (old new : Th) (hold : s.ths[i]? = some old)
    (hths : u.ths = s.ths.set i new) (hins : u.ins = s.ins) (hd : (base new).blt (base old) = true) :
    phi u + 1 ≤ phi s + 0 :=
  phi_set s u i old new hold hths 0 (by rw [hins]; rfl) (Nat.le_of_ble_eq_true hd)

/-- the inner subscriber changes channel `k`: the potential rises by two per message added (`+ 0`: as in `phi_set`) -/
theorem phi_ins (s u : St) (k n : Nat) (c c' : In) (hc : s.ins[k]? = some c) (hths : u.ths = s.ths)
    (hins : u.ins = s.ins.set k c') (hle : c'.pending ≤ c.pending + n) : phi u + 0 ≤ phi s + 2 * n := by
  have := pend_set s.ins k c c' hc
  unfold phi; rw [hths, hins]; omega

theorem phi_append (s u : St) (new : Th) (hths : u.ths = s.ths ++ [new]) (hp : u.ins = s.ins) :
    phi u = phi s + base new := by
  simp only [phi, hths, hp, List.map_append, List.sum_append, List.map_cons, List.map_nil, List.sum_cons, List.sum_nil]
  omega

def credit : Action → Nat
  | .newSub => 8
  | .newClose => 5
  | .push _ => 2
  | _ => 0

/-- actions of the decorator's own goroutines and of the consumer (everything that is not a new call or the inner
    subscriber) -/
def isStep : Action → Bool
  | .step _ | .deliver _ | .subFail _ => true
  | _ => false

theorem credit_of_isStep {a : Action} (h : isStep a = true) : credit a = 0 := by
  cases a <;> first | rfl | cases h

/-- an action raises the potential by at most its credit, and a step of the decorator's own goroutines or of the
    consumer uses one unit of it up -/
theorem phi_act (s : St) (a : Action) (s' : St) (ha : act s a = some s') (hnp : s'.panicked = false) :
    phi s' + (isStep a).toNat ≤ phi s + credit a := by
  cases step_of_act ha
  case newSub => exact Nat.le_of_eq (phi_append s _ (.sub 0 .inner) rfl rfl)
  case newClose => exact Nat.le_of_eq (phi_append s _ (.closer .inner) rfl rfl)
  case push k c hc _ => exact phi_ins s _ k 1 c _ hc rfl rfl (Nat.le_refl _)
  case inClose k c hc => exact phi_ins s _ k 0 c _ hc rfl rfl (Nat.le_refl _)
  case panic => cases hnp
  case spawn i k hth =>
    -- the four steps the Subscribe call had left pay for the three of the pump it starts
    let mid : St := { s with ths := s.ths.set i (Th.sub k .retOk) }
    have h1 : phi mid + 4 ≤ phi s + 0 := phi_set s mid i _ _ hth rfl 0 rfl (Nat.le_refl 4)
    exact Nat.le_trans (Nat.le_of_eq (congrArg (· + 1) (phi_append mid _ (.pump k .recv 0 0 0) rfl rfl))) h1
  case move hth hm =>
    cases hm
    case subInner => exact phi_set s _ _ _ _ hth rfl 0 (pend_append _ _) (Nat.le_of_ble_eq_true rfl)
    case closeInner => exact phi_set s _ _ _ _ hth rfl 0 (pend_close _) (Nat.le_of_ble_eq_true rfl)
    case pumpRecv c hc hp =>
      -- the message taken pays for the way back from `send` to `recv`
      exact phi_set s _ _ _ _ hth rfl 1 (pend_take s.ins _ c _ hc (Nat.sub_add_cancel hp)) (Nat.le_of_ble_eq_true rfl)
    all_goals exact phi_set_keep s _ _ _ _ hth rfl rfl rfl

end Wm.GcDec
