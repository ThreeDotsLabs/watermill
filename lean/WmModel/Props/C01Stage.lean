/-
  C01 – the per-stage hypothesis H1 of the pipeline model is *derived* from the model of `handler.handleMessage`
  (WmModel/Handle.lean, tied to the Go source of every run by `Props/C02Tie.lean`) instead of being assumed.

  `Props/C01.lean` describes one invocation of a stage by an `Invocation` (ok / one of five faults) and states the facts
  H1–H3 about its `Effect` (acked, accepted) as the structure `StageFacts`; `realEff` is a hand-written table there.
  Here the effect is *computed* from the effect list `Wm.Handle.handle c ⟨none, result⟩ pub` of the C02 model and the
  first-wins settlement model of C03 (`sentAfter`):
     acked    := the subscriber sees Ack after the effects of `handleMessage`,
     accepted := `handleMessage` called `Publish` and the publisher handed the output on to the next topic.
  `stage_effect_eq_realEff` shows that this computed effect is `realEff (classify x)` for EVERY behaviour `x` of the
  handler chain and of the publisher (any outputs of any length ≥ 1 on success, any outputs next to an error, any panic
  value, any kind of message), so `StageFacts` holds of the C02 model (`handle_stage_facts`) and `pipeline_refines`
  applies to it (`pipeline_refines_handle`).  The safety half of H2 and H3 are derived likewise in `Props/C01Sub.lean`
  and `Props/C01Prod.lean`; H4 (finite fault script) stays a hypothesis.
-/
import WmModel.Props.C01
import WmModel.Props.C02
namespace Wm.Pipeline
open Wm.Lts Wm.Handle

variable {α : Type}

/-- one invocation of a stage in the terms of the C02 model: how the handler chain ends (it does not settle the message
    itself), the verdict of the publisher's `Publish`, and whether the publisher handed the output on to the next topic
    (`GoChannel.Publish` of the next topic returned nil) before giving that verdict – the harness's publisher wrapper
    reports an error *after* handing on for the fault `pubErrAfterPartial`. -/
structure Call (α : Type) where
  result   : Result α
  pub      : PubOutcome
  handedOn : Bool

/-- a publisher that accepts has handed the output on; one that panics (before the inner call) has not -/
def Call.WF (x : Call α) : Prop :=
  (x.pub = .accept → x.handedOn = true) ∧ (x.pub = .panic → x.handedOn = false)

/-- a stage of a pipeline emits at least one output per successfully handled input (`Shape.WF`: `next s ≠ []`) -/
def Call.Emits (x : Call α) : Prop := ∀ outs, x.result = .returns outs false → outs ≠ []

/-- which `Invocation` of the pipeline model a behaviour is -/
def classify (x : Call α) : Invocation :=
  match x.result with
  | .panics _ => .fails .handlerPanic
  | .returns _ true => .fails .handlerErr
  | .returns _ false =>
    match x.pub with
    | .accept => .ok
    | .panic  => .fails .pubPanic
    | .error  => if x.handedOn then .fails .pubErrAfterPartial else .fails .pubErr

/-- the effect of the invocation **computed from the C02/C03 models**: the settlement the subscriber sees after the
    effect list of `handleMessage`, and whether `Publish` was called and handed the output on -/
def stageEffect (k : Ack.Kind) (c : Cfg) (x : Call α) : Effect :=
  ⟨decide (sentAfter k (handle c ⟨none, x.result⟩ x.pub) = .ack),
   (handle c ⟨none, x.result⟩ x.pub).any Effect.isPublishCall && x.handedOn⟩

theorem ackCond_iff_ok (c : Cfg) (hc : c.kind = .withPub) (x : Call α) (he : x.Emits) :
    AckCond c ⟨none, x.result⟩ x.pub ↔ classify x = .ok := by
  unfold AckCond classify
  cases hr : x.result with
  | panics v => simp
  | returns outs err =>
    cases err with
    | true => simp
    | false =>
      have hne : outs ≠ [] := he outs hr
      cases hp : x.pub <;> simp [hne, hc]
      split <;> simp

/-- **H1 derived**: for every handler with a publisher, every kind of message, every behaviour of the chain that emits
    on success and every publisher behaviour, the effect computed from the `handleMessage` model is the table `realEff` -/
theorem stage_effect_eq_realEff (k : Ack.Kind) (c : Cfg) (hc : c.kind = .withPub) (x : Call α)
    (hw : x.WF) (he : x.Emits) : stageEffect k c x = realEff (classify x) := by
  obtain ⟨hw1, hw2⟩ := hw
  unfold stageEffect classify
  rw [sentAfter_handle, any_publishCall_handle]
  cases hr : x.result with
  | panics v => rfl
  | returns outs err =>
    cases err with
    | true => rfl
    | false =>
      -- a publisher is asked, and its verdict is how `handleMessage` ends
      have hne : outs ≠ [] := he outs hr
      rw [ending_withPub hc none hne, (published_call (c := c) rfl hne (by simp [hc]) x.pub).1]
      cases hp : x.pub with
      | accept => simp [realEff, hw1 hp, Effect.isPublishCall]
      | panic => simp [realEff, hw2 hp, Effect.isPublishCall]
      | error => cases x.handedOn <;> simp [realEff, Effect.isPublishCall]

/-- every invocation of the pipeline model is the class of a well-formed behaviour (the classification is onto, so
    `handle_stage_facts` below speaks about all six invocations) -/
def rep (a : α) : Invocation → Call α
  | .ok                        => ⟨.returns [a] false, .accept, true⟩
  | .fails .handlerErr         => ⟨.returns [] true, .accept, true⟩
  | .fails .handlerPanic       => ⟨.panics .value, .accept, true⟩
  | .fails .pubErr             => ⟨.returns [a] false, .error, false⟩
  | .fails .pubPanic           => ⟨.returns [a] false, .panic, false⟩
  | .fails .pubErrAfterPartial => ⟨.returns [a] false, .error, true⟩

theorem classify_rep (a : α) (o : Invocation) : classify (rep a o) = o := by
  cases o with
  | ok => rfl
  | fails f => cases f <;> rfl

theorem rep_wf (a : α) (o : Invocation) : (rep a o).WF ∧ (rep a o).Emits := by
  cases o with
  | ok => simp [rep, Call.WF, Call.Emits]
  | fails f => cases f <;> simp [rep, Call.WF, Call.Emits]

/-- **`StageFacts` holds of the `handleMessage` model**: for any choice `r` of a behaviour per invocation class (any
    outputs, any panic values …) the effect computed from `Wm.Handle.handle` satisfies H1–H3 of `Props/C01.lean` -/
theorem handle_stage_facts (k : Ack.Kind) (c : Cfg) (hc : c.kind = .withPub) (r : Invocation → Call α)
    (hr : ∀ o, classify (r o) = o ∧ (r o).WF ∧ (r o).Emits) :
    StageFacts (fun o => stageEffect k c (r o)) := by
  have heq : (fun o => stageEffect k c (r o)) = realEff := by
    funext o
    rw [stage_effect_eq_realEff k c hc (r o) (hr o).2.1 (hr o).2.2, (hr o).1]
  rw [heq]; exact realEff_facts

/-- **pipeline_refines for the tied handler model**: a copy in `handling` at stage `st`, any behaviour `x` of the chain
    and of the publisher; the steps of the pipeline model match what `handleMessage` (C02 model) does to the copy:
    Acked ⇒ token gone and the downstream tokens exist; not Acked ⇒ the token is pending again (redelivery);
    handed on ⇒ a pending token at every subscription of the next topic. -/
theorem pipeline_refines_handle (p : Shape) (srcs : List Nat) (faults : List Fault)
    (k : Ack.Kind) (c : Cfg) (hc : c.kind = .withPub) (x : Call α) (hw : x.WF) (he : x.Emits)
    (s : St) (i l st : Nat) (hi : s.toks[i]? = some ⟨l, st, .handling⟩)
    (hscript : ∀ f, classify x = .fails f → ∃ j : Nat, s.faults[j]? = some (⟨f, st⟩ : Fault)) :
    ∃ acts s', exec (sys p srcs faults) s acts = some s' ∧
      (sentAfter k (handle c ⟨none, x.result⟩ x.pub) = .ack → s'.toks = (s.toks.eraseIdx i) ++ spawn p l st) ∧
      (sentAfter k (handle c ⟨none, x.result⟩ x.pub) ≠ .ack → s'.toks[i]? = some ⟨l, st, .pending⟩) ∧
      (((handle c ⟨none, x.result⟩ x.pub).any Effect.isPublishCall && x.handedOn) = true →
          ∀ t, t ∈ p.next st → (⟨l, t, .pending⟩ : Tok) ∈ s'.toks) := by
  obtain ⟨acts, s', hex, h1, h2, h3, _⟩ :=
    pipeline_refines (p := p) (srcs := srcs) (faults := faults) realEff realEff_facts s i l st hi (classify x) hscript
  have heq := stage_effect_eq_realEff k c hc x hw he
  refine ⟨acts, s', hex, ?_, ?_, ?_⟩
  · intro h; apply h1; rw [← heq]; simp [stageEffect, h]
  · intro h; apply h2; rw [← heq]; simp [stageEffect, h]
  · intro h; apply h3; rw [← heq]; simpa [stageEffect] using h

/-- a handler WITHOUT a publisher is not a pipeline stage: whatever it returns on success with outputs, the copy is
    not Acked (C08's "no-publisher outputs ⇒ nack") – the hypothesis `c.kind = .withPub` above is needed -/
theorem nopub_stage_never_acks_outputs (k : Ack.Kind) (c : Cfg) (hc : c.kind ≠ .withPub) (a : α) (outs : List α)
    (pb : PubOutcome) : sentAfter k (handle c ⟨none, .returns (a :: outs) false⟩ pb) ≠ .ack := by
  rw [sentAfter_handle, ending_nopub hc none (by simp)]
  simp

/-! ### non-vacuity: the hypotheses are met by a concrete stage, and the conclusion is exercised -/

example : (stageEffect .new ⟨.withPub, "t"⟩ (rep (7 : Nat) (.fails .pubErrAfterPartial))) = ⟨false, true⟩ := by decide
example : (stageEffect .new ⟨.withPub, "t"⟩ (rep (7 : Nat) .ok)) = ⟨true, true⟩ := by decide
example : (stageEffect .zero ⟨.withPub, "t"⟩ (rep (7 : Nat) (.fails .pubPanic))) = ⟨false, false⟩ := by decide
example : StageFacts (fun o => stageEffect .new ⟨.withPub, "t"⟩ (rep (7 : Nat) o)) :=
  handle_stage_facts .new _ rfl _ (fun o => ⟨classify_rep 7 o, rep_wf 7 o⟩)

end Wm.Pipeline
