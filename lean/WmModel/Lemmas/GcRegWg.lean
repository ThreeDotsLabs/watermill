import WmModel.Lemmas.GcRegInv
namespace Wm.GcReg

variable {s s' : St} {a : Action} {i : Nat} {old new : Th} {l : List Th} {wg wg' : Nat}

/-- B2: `subscribersWg` counts exactly the subscriptions on their way in or not yet removed -/
def WgOk (s : St) : Prop := s.wg = s.ths.countP needsDone

theorem wg_init (cfg : Cfg) : WgOk (init cfg) := rfl

theorem countP_set_get (l : List Th) (i : Nat) (old new : Th) (h : l[i]? = some old) :
    (l.set i new).countP needsDone + (if needsDone old = true then 1 else 0) =
      l.countP needsDone + (if needsDone new = true then 1 else 0) := by
  simpa [Bool.toNat, Bool.cond_eq_ite] using Wm.countP_set_get needsDone l i old new h

/-- thread `i` moves: the counter changes as the thread's share does -/
theorem wg_set (h : wg = l.countP needsDone) (hold : l[i]? = some old)
    (hwg : wg' + (if needsDone old = true then 1 else 0) = wg + (if needsDone new = true then 1 else 0)) :
    wg' = (l.set i new).countP needsDone := by
  have := countP_set_get l i old new hold
  omega

theorem wg_append (h : wg = l.countP needsDone) (hn : needsDone new = false) : wg = (l ++ [new]).countP needsDone := by
  rw [List.countP_append, h, List.countP_singleton, hn]; rfl

theorem wg_step (h : WgOk s) (hs : Step s a s') : WgOk s' := by
  cases hs with
  | newPub | newPubNested | newSub | newClose => exact wg_append h rfl
  | cancel | senderDone | panic => exact h
  | subTlock i t hth =>
    -- the Subscribe thread hands its unit to the unsubscribe goroutine it starts
    unfold WgOk at *
    rw [List.countP_append, h]
    exact (countP_set_get _ _ _ (.sub t s.nextSid .register) hth).symm
  | thread hth hm =>
    cases hm with
    | tdRemove _ hwg => exact wg_set h hth (Nat.sub_add_cancel (Nat.pos_of_ne_zero hwg))
    | _ => exact wg_set h hth rfl

end Wm.GcReg
