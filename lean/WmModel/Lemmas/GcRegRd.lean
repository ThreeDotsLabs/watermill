import WmModel.Lemmas.GcRegInv
namespace Wm.GcReg

variable {s s' : St} {a : Action} {i : Nat} {old new : Th} {l : List Th} {rd rd' : List Nat}

/-- the thread holds `subscribersLock.RLock` -/
def holdsR : Th → Bool
  | .pub _ _ .tlock _ | .pub _ _ .persist _ | .pub _ _ .send _ | .pub _ _ (.wait _) _ | .pub _ _ .unlock _ => true
  | _ => false

def RdOn (l : List Th) (readers : List Nat) : Prop :=
  (∀ (i : Nat), i ∈ readers ↔ ∃ th, l[i]? = some th ∧ holdsR th = true) ∧ readers.Nodup

/-- `readers` is exactly the set of Publish threads between RLock and RUnlock -/
def RdOk (s : St) : Prop := RdOn s.ths s.readers

theorem rd_init (cfg : Cfg) : RdOk (init cfg) := by simp [RdOk, RdOn, init]

theorem rd_set (h : RdOn l rd) (hold : l[i]? = some old) (hnd : rd'.Nodup)
    (hrd : ∀ j, j ∈ rd' ↔ if j = i then holdsR new = true else j ∈ rd) : RdOn (l.set i new) rd' := by
  refine ⟨fun j => ?_, hnd⟩
  rw [hrd, exists_set_iff hold, h.1 j]

theorem rd_set_same (h : RdOn l rd) (hold : l[i]? = some old) (hr : holdsR new = holdsR old) : RdOn (l.set i new) rd := by
  refine rd_set h hold h.2 (fun j => ?_)
  split
  · next hji => rw [hji, h.1 i, exists_get_iff hold, hr]
  · rfl

theorem rd_set_acquire (h : RdOn l rd) (hold : l[i]? = some old)
    (ho : holdsR old = false) (hn : holdsR new = true) : RdOn (l.set i new) (i :: rd) := by
  have hnot : i ∉ rd := fun hx => by rw [h.1 i, exists_get_iff hold, ho] at hx; cases hx
  refine rd_set h hold (List.nodup_cons.mpr ⟨hnot, h.2⟩) (fun j => ?_)
  rw [List.mem_cons]
  split
  · next hji => exact ⟨fun _ => hn, fun _ => Or.inl hji⟩
  · next hji => exact ⟨fun hx => hx.resolve_left hji, Or.inr⟩

theorem rd_set_release (h : RdOn l rd) (hold : l[i]? = some old) (hn : holdsR new = false) :
    RdOn (l.set i new) (rd.erase i) := by
  refine rd_set h hold (h.2.erase i) (fun j => ?_)
  rw [h.2.mem_erase_iff]
  split
  · next hji => exact ⟨fun hx => absurd hji hx.1, fun hx => by rw [hn] at hx; cases hx⟩
  · next hji => exact ⟨fun hx => hx.2, fun hx => ⟨hji, hx⟩⟩

theorem rd_append (h : RdOn l rd) (hn : holdsR new = false) : RdOn (l ++ [new]) rd :=
  ⟨fun j => by rw [exists_append_iff (by rw [hn]; exact Bool.noConfusion), h.1 j], h.2⟩

theorem rd_step (h : RdOk s) (hs : Step s a s') : RdOk s' := by
  cases hs with
  | newPub | newPubNested | newSub | newClose => exact rd_append h rfl
  | cancel | senderDone | panic => exact h
  | subTlock i t hth => exact rd_append (rd_set_same h hth rfl) rfl
  | thread hth hm =>
    cases hm with
    | pubRlock => exact rd_set_acquire h hth rfl rfl
    | pubPersistErr | pubUnlock => exact rd_set_release h hth rfl
    | _ => exact rd_set_same h hth rfl

end Wm.GcReg
