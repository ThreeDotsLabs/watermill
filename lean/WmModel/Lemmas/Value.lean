/-
  Helper lemmas for C16: association lists as Go maps, the counting argument, the loops of `Equals` and `Copy`.
  Property theorems live in `Props/C16.lean`.
-/
import WmModel.Value
namespace Wm.Value

theorem lookup_none_iff {m : Meta} {k : String} : lookup m k = none ↔ k ∉ keys m := by
  induction m with
  | nil => exact ⟨fun _ => nofun, fun _ => rfl⟩
  | cons e r ih =>
    obtain ⟨k', v'⟩ := e
    rw [lookup, keys, List.map_cons, List.mem_cons, not_or]
    by_cases h : k' = k
    · rw [if_pos h]
      exact ⟨nofun, fun h' => absurd h.symm h'.1⟩
    · rw [if_neg h, ih]
      exact ⟨fun h' => ⟨Ne.symm h, h'⟩, And.right⟩

theorem lookup_some_mem {m : Meta} {k v : String} (h : lookup m k = some v) : (k, v) ∈ m := by
  induction m with
  | nil => simp [lookup] at h
  | cons e r ih =>
    obtain ⟨k', v'⟩ := e
    by_cases hk : k' = k
    · simp [lookup, hk] at h; simp [hk, h]
    · simp [lookup, hk] at h; exact List.mem_cons_of_mem _ (ih h)

theorem mem_keys_of_mem {m : Meta} {k v : String} (h : (k, v) ∈ m) : k ∈ keys m := by
  simp only [keys, List.mem_map]; exact ⟨(k, v), h, rfl⟩

theorem noDupKeys_nil : NoDupKeys [] := List.nodup_nil

theorem noDupKeys_cons {k v : String} {r : Meta} : NoDupKeys ((k, v) :: r) ↔ k ∉ keys r ∧ NoDupKeys r :=
  List.nodup_cons

theorem lookup_of_mem {m : Meta} (hm : NoDupKeys m) {k v : String} (h : (k, v) ∈ m) : lookup m k = some v := by
  induction m with
  | nil => cases h
  | cons e r ih =>
    obtain ⟨k', v'⟩ := e
    obtain ⟨hk, hr⟩ := noDupKeys_cons.mp hm
    rw [lookup]
    rcases List.mem_cons.mp h with heq | hmem
    · cases heq
      exact if_pos rfl
    · rw [if_neg fun e : k' = k => hk (e ▸ mem_keys_of_mem hmem)]
      exact ih hr hmem

theorem mem_iff_lookup {m : Meta} (hm : NoDupKeys m) {k v : String} : (k, v) ∈ m ↔ lookup m k = some v :=
  ⟨lookup_of_mem hm, lookup_some_mem⟩

/-- "the same key/value set", said with entries instead of lookups: for maps the two readings agree -/
theorem lookup_eq_iff_same_entries (a b : Meta) (ha : NoDupKeys a) (hb : NoDupKeys b) :
    (∀ k, lookup a k = lookup b k) ↔ (∀ k v, (k, v) ∈ a ↔ (k, v) ∈ b) := by
  simp only [mem_iff_lookup ha, mem_iff_lookup hb]
  exact ⟨fun h k v => by rw [h k], fun h k => Option.ext (h k)⟩

theorem keys_subset {a b : Meta} (h : ∀ k v, lookup a k = some v → lookup b k = some v) : keys a ⊆ keys b := by
  intro x hx
  cases hv : lookup a x with
  | none => exact absurd hx (lookup_none_iff.mp hv)
  | some v => exact mem_keys_of_mem (lookup_some_mem (h x v hv))

/-! ### the counting argument: a duplicate-free list included in a list that is not longer covers it -/

theorem subset_of_nodup_subset_length_le {l₁ l₂ : List String} (hn : l₁.Nodup) (hs : l₁ ⊆ l₂)
    (hl : l₂.length ≤ l₁.length) : l₂ ⊆ l₁ := by
  intro x hx
  apply Classical.byContradiction
  intro hnx
  have := List.Nodup.length_le_of_subset (List.nodup_cons.mpr ⟨hnx, hn⟩) (List.cons_subset.mpr ⟨hx, hs⟩)
  exact Nat.not_succ_le_self _ (Nat.le_trans this hl)

theorem keys_length (m : Meta) : (keys m).length = m.length := by simp [keys]

theorem equalsLoop_cons (other : Meta) (k v : String) (r : Meta) :
    equalsLoop other ((k, v) :: r) = true ↔ lookup other k = some v ∧ equalsLoop other r = true := by
  rw [equalsLoop]
  cases lookup other k with
  | none => exact ⟨nofun, nofun⟩
  | some ov => simp [eq_comm (a := ov)]

theorem equalsLoop_true_iff {other m : Meta} :
    equalsLoop other m = true ↔ ∀ k v, (k, v) ∈ m → lookup other k = some v := by
  induction m with
  | nil => simp [equalsLoop]
  | cons e r ih =>
    rw [equalsLoop_cons, ih]
    exact ⟨fun ⟨h1, h2⟩ k v hkv => (List.mem_cons.mp hkv).elim (fun he => by cases he; exact h1) (h2 k v),
      fun h => ⟨h _ _ (.head _), fun k v hkv => h k v (.tail _ hkv)⟩⟩

/-- What `Equals` checks about two maps – equal length, every entry of `a` found in `b` – says that they hold the same
key/value set.  The loop alone gives `keys a ⊆ keys b`; with `len a = len b` and no duplicate keys, counting gives
the other inclusion. -/
theorem length_loop_iff_lookup {a b : Meta} (ha : NoDupKeys a) (hb : NoDupKeys b) :
    a.length = b.length ∧ equalsLoop b a = true ↔ ∀ k, lookup a k = lookup b k := by
  rw [equalsLoop_true_iff]
  constructor
  · rintro ⟨hl, hloop⟩ k
    cases hak : lookup a k with
    | some v => exact (hloop k v (lookup_some_mem hak)).symm
    | none =>
      have hsub := keys_subset fun k v hv => hloop k v (lookup_some_mem hv)
      have hrev := subset_of_nodup_subset_length_le ha hsub (by rw [keys_length, keys_length, hl]; exact Nat.le_refl _)
      exact (lookup_none_iff.mpr fun hk => lookup_none_iff.mp hak (hrev hk)).symm
  · intro h
    have hab := List.Nodup.length_le_of_subset ha (keys_subset (b := b) fun k v hv => (h k).symm.trans hv)
    have hba := List.Nodup.length_le_of_subset hb (keys_subset (b := a) fun k v hv => (h k).trans hv)
    rw [keys_length, keys_length] at hab hba
    exact ⟨Nat.le_antisymm hab hba, fun k v hkv => (h k).symm.trans (lookup_of_mem ha hkv)⟩

theorem equals_eq_true {a b : Msg} : equals a b = true ↔
    a.uuid = b.uuid ∧ a.md.length = b.md.length ∧ equalsLoop b.md a.md = true ∧ a.bytes = b.bytes := by
  simp [equals]

theorem lookup_set (m : Meta) (k v x : String) :
    lookup (set m k v) x = if k = x then some v else lookup m x := by
  induction m with
  | nil => simp [set, lookup]
  | cons e r ih =>
    obtain ⟨k', v'⟩ := e
    by_cases h : k' = k
    · subst h
      by_cases hx : k' = x <;> simp [set, lookup, hx]
    · by_cases hx : k' = x
      · subst hx
        simp [set, lookup, h]
        intro e; exact absurd e.symm h
      · simp [set, lookup, h, hx, ih]

theorem keys_set (m : Meta) (k v : String) :
    keys (set m k v) = if k ∈ keys m then keys m else keys m ++ [k] := by
  induction m with
  | nil => simp [set, keys]
  | cons e r ih =>
    obtain ⟨k', v'⟩ := e
    by_cases h : k' = k
    · subst h; simp [set, keys]
    · have h' : ¬ k = k' := fun e => h e.symm
      simp only [keys] at ih
      simp only [set, h, ↓reduceIte, keys, List.map_cons, List.mem_cons, h', false_or, ih]
      split <;> simp [*]

theorem set_noDup {m : Meta} (hm : NoDupKeys m) (k v : String) : NoDupKeys (set m k v) := by
  unfold NoDupKeys at *
  rw [keys_set]
  split
  · exact hm
  · rename_i hk
    rw [List.nodup_append]
    refine ⟨hm, by simp, ?_⟩
    intro a ha b hb
    simp at hb
    subst hb
    intro e; exact hk (e ▸ ha)

/-- re-setting all entries of a map into another one, key by key (the loop of `Copy`) -/
def setAll (acc : Meta) (m : Meta) : Meta := m.foldl (fun a kv => set a kv.1 kv.2) acc

theorem setAll_noDup {acc : Meta} (ha : NoDupKeys acc) (m : Meta) : NoDupKeys (setAll acc m) := by
  induction m generalizing acc with
  | nil => exact ha
  | cons e r ih => exact ih (set_noDup ha _ _)

theorem lookup_setAll {m : Meta} (hm : NoDupKeys m) (acc : Meta) (x : String) :
    lookup (setAll acc m) x = match lookup m x with | some v => some v | none => lookup acc x := by
  induction m generalizing acc with
  | nil => rfl
  | cons e r ih =>
    obtain ⟨k', v'⟩ := e
    obtain ⟨hk, hr⟩ := noDupKeys_cons.mp hm
    rw [setAll, List.foldl_cons, ← setAll, ih hr, lookup_set, lookup]
    by_cases hx : k' = x
    · rw [if_pos hx, if_pos hx, lookup_none_iff.mpr (hx ▸ hk)]
    · rw [if_neg hx, if_neg hx]

/-- the loop of `Copy`, started from the empty map, rebuilds the key/value set of the original -/
theorem lookup_setAll_nil {m : Meta} (hm : NoDupKeys m) (x : String) : lookup (setAll [] m) x = lookup m x := by
  rw [lookup_setAll hm]
  cases lookup m x <;> rfl

theorem copyMsg_wf (m : Msg) : (copyMsg m).WF := setAll_noDup noDupKeys_nil m.md

end Wm.Value
