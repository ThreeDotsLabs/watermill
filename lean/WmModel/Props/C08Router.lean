/-
  C08 – `Wm.Route.handleOne` (what the Router does with one consumed message in one handler: whether it publishes, on which
  topic, which objects in which order, how it settles) is *derived* from the model of `handler.handleMessage` /
  `publishProducedMessages` (WmModel/Handle.lean, tied to the Go source by `Props/C02Tie.lean`) and the settlement model
  of C03, instead of being a second, independent description of the same Go function:
    * the settlement of `handleOne` is the one the subscriber sees after the effect list of `handleMessage`
      (`handleOne_settle_eq_handle`);
    * the `Publish` calls of `handleOne` – topic and returned objects, unmodified and in order – are exactly the
      `publishCall` effects of `handleMessage` that reach a real publisher (`handleOne_calls_eq_handle`): one call with the
      whole slice on the handler's own publish topic, or none.
  for every handler configuration, every delivery, every kind of message.  (The publisher accepts: that is the case
  `handleOne` describes; refusals and panics of the publisher are C02's subject.)
-/
import WmModel.Route
import WmModel.Props.C02
namespace Wm.Route
open Wm.Handle (Cfg Kind PubOutcome handle sentAfter)

/-- the handler's configuration as `handleMessage` sees it -/
def HCfg.toCfg (h : HCfg) : Cfg :=
  ⟨match h.pub with
   | some _ => .withPub
   | none => if h.nilPub then .nilPub else .disabled,
   h.pubTopic⟩

/-- what the middleware-wrapped function returned, as `handleMessage` sees it -/
def toResult (h : HCfg) (s : Shape) : Handle.Result Ref :=
  match produced h s with
  | none => .returns [] true
  | some rs => .returns rs false

def Settle.toSent : Settle → Ack.Sent
  | .ack => .ack
  | .nack => .nack

/-- the `Publish` calls of an effect list: topic and objects (`Wm.Retry.pubCallsOf`, `Props/C12Router.lean`, is the same
    function for the message type of the retry model) -/
def pubCallsOf : List (Handle.Effect Ref) → List (String × List Ref)
  | [] => []
  | .publishCall t ms :: rest => (t, ms) :: pubCallsOf rest
  | _ :: rest => pubCallsOf rest

/-- **settlement**: `handleOne` settles as `handleMessage` does -/
theorem handleOne_settle_eq_handle (k : Ack.Kind) (h : HCfg) (d : Delivery) :
    sentAfter k (handle h.toCfg ⟨none, toResult h d.shape⟩ .accept) = (handleOne h d).settle.toSent := by
  rw [Handle.sentAfter_handle]
  unfold handleOne toResult
  cases hp : produced h d.shape with
  | none => rfl
  | some rs =>
    cases rs with
    | nil => rfl
    | cons r rs =>
      cases hpub : h.pub with
      | none =>
        have hk : h.toCfg.kind ≠ .withPub := by simp only [HCfg.toCfg, hpub]; split <;> simp
        simp [Handle.ending_nopub hk, Settle.toSent]
      | some p =>
        have hk : h.toCfg.kind = .withPub := by simp [HCfg.toCfg, hpub]
        simp [Handle.ending_withPub hk, Settle.toSent]

/-- **right topic, unmodified outputs, in order, one call or none**: the calls of `handleOne` on the handler's publisher
    are the `publishCall` effects of `handleMessage` (for a handler that has a publisher object of its own; the
    `disabledPublisher` of AddNoPublisherHandler is no publisher of anybody's) -/
theorem handleOne_calls_eq_handle (h : HCfg) (d : Delivery) (hk : h.toCfg.kind ≠ .disabled) :
    (handleOne h d).calls.map (fun c => (c.topic, c.items.map (·.1))) =
      pubCallsOf (handle h.toCfg ⟨none, toResult h d.shape⟩ .accept) := by
  unfold handleOne toResult
  cases hp : produced h d.shape with
  | none => simp [handle, Handle.selfEff, pubCallsOf]
  | some rs =>
    cases rs with
    | nil => simp [handle, Handle.selfEff, Handle.publishProduced, Handle.settleTail, pubCallsOf]
    | cons r rs =>
      cases hpub : h.pub with
      | none =>
        have hn : h.toCfg.kind = .nilPub := by
          simp [HCfg.toCfg, hpub] at hk ⊢
          cases hb : h.nilPub <;> simp [hb] at hk ⊢
        simp [handle, Handle.selfEff, Handle.publishProduced, hn, Handle.settleTail, pubCallsOf]
      | some p =>
        have hw : h.toCfg.kind = .withPub := by simp [HCfg.toCfg, hpub]
        have ht : Handle.pubTopic h.toCfg = h.pubTopic := Handle.pubTopic_withPub hw
        simp [handle, Handle.selfEff, Handle.publishProduced, hw, Handle.settleTail, pubCallsOf, Handle.effPub, ht,
          List.map_map, Function.comp_def]

/-- AddNoPublisherHandler whose chain nevertheless returns messages: `handleMessage` asks only the `disabledPublisher`
    (topic ""), which refuses – Nack, nothing reaches a real publisher (the clause of the statement) -/
theorem disabled_outputs_nack (k : Ack.Kind) (h : HCfg) (d : Delivery) (hk : h.toCfg.kind = .disabled) (r : Ref) (rs : List Ref)
    (hp : produced h d.shape = some (r :: rs)) (pb : PubOutcome) :
    sentAfter k (handle h.toCfg ⟨none, toResult h d.shape⟩ pb) = .nack ∧ (handleOne h d).settle = .nack ∧
      (handleOne h d).calls = [] := by
  have hnone : h.pub = none := by
    cases hpub : h.pub with
    | none => rfl
    | some p => simp [HCfg.toCfg, hpub] at hk
  refine ⟨?_, ?_, ?_⟩
  · have hk' : h.toCfg.kind ≠ .withPub := by simp [hk]
    simp [Handle.sentAfter_handle, toResult, hp, Handle.ending_nopub hk']
  · simp [handleOne, hp, hnone]
  · simp [handleOne, hp, hnone]

/-! ### non-vacuity -/
def exH : HCfg := ⟨"h", 1, "in", "sub", some 7, "out", "pub", 1, false, false⟩
example : (handleOne exH ⟨1, "in", 3, .outs [.consumed, .fresh 0], [], .live⟩).calls.map (fun c => (c.topic, c.items.map (·.1)))
    = [("out", [.consumed, .fresh 0, .mw 0])] := by decide
example : pubCallsOf (handle exH.toCfg ⟨none, toResult exH (.outs [.consumed, .fresh 0])⟩ .accept)
    = [("out", [.consumed, .fresh 0, .mw 0])] := by decide

end Wm.Route
