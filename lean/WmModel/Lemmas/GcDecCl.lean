import WmModel.Lemmas.GcDecStep
namespace Wm.GcDec

/-- a Close call that is past `t.sub.Close()` -/
def pastInner : Th → Bool
  | .closer .inner => false
  | .closer _ => true
  | _ => false

/-- a Close call that is past the Once -/
def pastOnce : Th → Bool
  | .closer .inner | .closer .once => false
  | .closer _ => true
  | _ => false

/-- close protocol: `closing` is closed exactly by the Once; a Close call past `t.sub.Close()` has closed the inner
    subscriber, past the Once has signalled `closing`; a closed inner subscriber has closed all its channels -/
def ClOk (s : St) : Prop :=
  (s.onceDone = s.closing) ∧
  (∀ (i : Nat) (th : Th), s.ths[i]? = some th → pastInner th = true → s.innerClosed = true) ∧
  (∀ (i : Nat) (th : Th), s.ths[i]? = some th → pastOnce th = true → s.closing = true) ∧
  (s.innerClosed = true → ∀ c, c ∈ s.ins → c.isOpen = false)

theorem cl_init : ClOk init :=
  ⟨rfl, fun _ _ h => (init_no_thread h).elim, fun _ _ h => (init_no_thread h).elim, nofun⟩

/-- thread `i` moves to `new`; the flags `new` has passed are set -/
theorem cl_set (s u : St) (i : Nat) (new : Th) (hths : u.ths = s.ths.set i new) (h0 : u.onceDone = u.closing)
    (h1 : s.innerClosed = true → u.innerClosed = true) (h2 : s.closing = true → u.closing = true)
    (hp1 : pastInner new = true → u.innerClosed = true) (hp2 : pastOnce new = true → u.closing = true)
    (h4 : u.innerClosed = true → ∀ c, c ∈ u.ins → c.isOpen = false) (h : ClOk s) : ClOk u :=
  ⟨h0, hths ▸ forall_set (fun j th hj hp => h1 (h.2.1 j th hj hp)) i new hp1,
    hths ▸ forall_set (fun j th hj hp => h2 (h.2.2.1 j th hj hp)) i new hp2, h4⟩

/-- thread `i` moves without passing `t.sub.Close()` or the Once -/
theorem cl_set_keep (s u : St) (i : Nat) (old new : Th) (hold : s.ths[i]? = some old)
    (hths : u.ths = s.ths.set i new) (hp1 : pastInner new = pastInner old) (hp2 : pastOnce new = pastOnce old)
    (h1 : u.innerClosed = s.innerClosed) (h2 : u.closing = s.closing) (h3 : u.onceDone = s.onceDone)
    (h4 : u.innerClosed = true → ∀ c, c ∈ u.ins → c.isOpen = false) (h : ClOk s) : ClOk u :=
  cl_set s u i new hths (by rw [h3, h2]; exact h.1) (fun x => h1 ▸ x) (fun x => h2 ▸ x)
    (fun x => h1 ▸ h.2.1 i old hold (hp1 ▸ x)) (fun x => h2 ▸ h.2.2.1 i old hold (hp2 ▸ x)) h4 h

theorem cl_append (s u : St) (new : Th) (hp1 : pastInner new = false) (hp2 : pastOnce new = false)
    (hths : u.ths = s.ths ++ [new]) (h1 : u.innerClosed = s.innerClosed) (h2 : u.closing = s.closing)
    (h3 : u.onceDone = s.onceDone) (h4 : u.ins = s.ins) (h : ClOk s) : ClOk u :=
  ⟨by rw [h3, h2]; exact h.1, hths ▸ h1 ▸ forall_append h.2.1 new (fun hp => by rw [hp1] at hp; cases hp),
    hths ▸ h2 ▸ forall_append h.2.2.1 new (fun hp => by rw [hp2] at hp; cases hp), by rw [h1, h4]; exact h.2.2.2⟩

theorem cl_congr (s u : St) (h0 : u.ths = s.ths) (h1 : u.innerClosed = s.innerClosed) (h2 : u.closing = s.closing)
    (h3 : u.onceDone = s.onceDone) (h4 : u.innerClosed = true → ∀ c, c ∈ u.ins → c.isOpen = false) (h : ClOk s) : ClOk u := by
  obtain ⟨k1, k2, k3, _⟩ := h
  exact ⟨by rw [h3, h2]; exact k1, by rw [h0, h1]; exact k2, by rw [h0, h2]; exact k3, h4⟩

theorem mem_set_isOpen (l : List In) (k : Nat) (c0 : In) (hc0 : c0.isOpen = false) (h : ∀ c, c ∈ l → c.isOpen = false) :
    ∀ c, c ∈ l.set k c0 → c.isOpen = false := by
  intro c hc
  rcases List.mem_or_eq_of_mem_set hc with hm | rfl
  · exact h c hm
  · exact hc0

theorem cl_step (s : St) (a : Action) (s' : St) (h : ClOk s) (ha : act s a = some s') : ClOk s' := by
  have ⟨k1, k2, k3, k4⟩ := h
  cases step_of_act ha
  case newSub | newClose => exact cl_append s _ _ rfl rfl rfl rfl rfl rfl rfl h
  case panic => exact cl_congr s _ rfl rfl rfl rfl k4 h
  case push c hc ho =>
    -- the inner subscriber delivers into an open channel, so it is not closed
    exact cl_congr s _ rfl rfl rfl rfl (fun hic => by rw [k4 hic c (List.mem_of_getElem? hc)] at ho; cases ho) h
  case inClose => exact cl_congr s _ rfl rfl rfl rfl (fun hic => mem_set_isOpen _ _ _ rfl (k4 hic)) h
  case spawn i k hth =>
    let mid : St := { s with ths := s.ths.set i (Th.sub k .retOk) }
    exact cl_append mid _ _ rfl rfl rfl rfl rfl rfl rfl (cl_set_keep s mid i _ _ hth rfl rfl rfl rfl rfl rfl k4 h)
  case move hth hm =>
    cases hm
    case subInner hic =>
      exact cl_set_keep s _ _ _ _ hth rfl rfl rfl rfl rfl rfl (fun hic' => by rw [hic] at hic'; cases hic') h
    case pumpRecv c hc _ =>
      refine cl_set_keep s _ _ _ _ hth rfl rfl rfl rfl rfl rfl (fun hic => ?_) h
      exact mem_set_isOpen _ _ _ (k4 hic c (List.mem_of_getElem? hc)) (k4 hic)
    case closeInner =>
      refine cl_set s _ _ _ rfl k1 (fun _ => rfl) id (fun _ => rfl) nofun (fun _ c hc => ?_) h
      obtain ⟨c0, _, rfl⟩ := List.mem_map.mp hc
      rfl
    case onceSkip hod => exact cl_set s _ _ _ rfl k1 id id (fun _ => k2 _ _ hth rfl) (fun _ => k1 ▸ hod) k4 h
    case once => exact cl_set s _ _ _ rfl rfl id (fun _ => rfl) (fun _ => k2 _ _ hth rfl) (fun _ => rfl) k4 h
    all_goals exact cl_set_keep s _ _ _ _ hth rfl rfl rfl rfl rfl rfl k4 h

end Wm.GcDec
