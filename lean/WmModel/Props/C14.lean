/-
  C14 – Deduplicator lets exactly one message per key through per window.
  Property theorems only (helper lemmas: `WmModel/Lemmas/Dedup.lean`; model: `WmModel/Dedup.lean`).

  Every statement quantifies over *all* operation lists = all interleavings of arrivals (of any keys, from any number
  of goroutines) with clean-ups, because each operation is one critical section of the Go code (structural facts and
  the generated tie `Props/C14Tie.lean`).  Clock readings are arbitrary naturals subject to `WellTimed` only.
-/
import WmModel.Dedup
import WmModel.Lemmas.Dedup
set_option linter.unusedSectionVars false
namespace Wm.Dedup

variable {κ : Type} [DecidableEq κ]

/-! ## the window -/

/-- general form, from any repository and any starting clock reading -/
theorem one_per_window_from (w : Nat) (r : Repo κ) (t0 : Nat) (ops : List (Op κ)) (hw : WellTimedFrom t0 ops)
    (i j : Nat) (k : κ) (ti tj : Nat)
    (hi : acceptedFrom w r ops i k ti) (hj : acceptedFrom w r ops j k tj) (hij : i < j) : ti + w < tj := by
  induction ops generalizing r t0 i j with
  | nil => simp [acceptedFrom] at hi
  | cons o rest ih =>
    cases j with
    | zero => omega
    | succ j =>
      rw [acceptedFrom_cons_succ] at hj
      cases i with
      | zero =>
        -- the accepted arrival writes `(k, ti + w)`, and that entry keeps `k` out until after `ti + w`
        obtain ⟨rfl, hp⟩ := acceptedFrom_cons_zero.mp hi
        rw [step_arrive, isDup_absent hp] at hj
        exact accept_after_entry List.mem_cons_self hw.2.2 hj
      | succ i => exact ih _ _ hw.2.2 i j (acceptedFrom_cons_succ.mp hi) hj (by omega)

/-- **one per window**: between two accepted arrivals of one key at `ti` (earlier) and `tj`, more than a window has
    passed – for every interleaving of arrivals of any keys and clean-ups (DESIGN.md Appendix D) -/
theorem one_per_window (w : Nat) (ops : List (Op κ)) (hw : WellTimed ops) (i j : Nat) (k : κ) (ti tj : Nat)
    (hi : accepted w ops i k ti) (hj : accepted w ops j k tj) (hij : i < j) : ti + w < tj :=
  one_per_window_from w [] 0 ops hw i j k ti tj hi hj hij

/-- **remembered for at least the window**: every arrival of `k` up to `ti + w` after an accepted one is a duplicate -/
theorem remembered_at_least_window (w : Nat) (ops : List (Op κ)) (hw : WellTimed ops) (i j : Nat) (k : κ) (ti tj : Nat)
    (hi : accepted w ops i k ti) (hij : i < j) (hj : ops[j]? = some (.arrive k tj)) (hwin : tj ≤ ti + w) :
    (run w [] ops).2[j]? = some (.verdict true) := by
  cases hp : present (run w [] (ops.take j)).1 k with
  | true => rw [run_getElem?_arrive hj, hp]
  | false =>
    have := one_per_window w ops hw i j k ti tj hi (acceptedFrom_iff.mpr ⟨hj, hp⟩) hij
    omega

/-- **the window counts from the clock reading taken in the critical section**: `WellTimed` (readings non-decreasing in
    lock order) cannot be dropped from `one_per_window`.  If an arrival uses a reading taken *before* it queued for the lock
    (here: reading 0 used by the second operation, whose predecessor already read 150), the key is accepted again at 170 –
    more than a window after the stale reading, but only 20 after the section in which the first one was accepted. -/
theorem window_needs_section_clock_witness :
    let ops : List (Op String) := [.arrive "other" 150, .arrive "a" 0, .clean 101 160, .arrive "a" 170]
    accepted 100 ops 1 "a" 0 ∧ accepted 100 ops 3 "a" 170 ∧ ¬ WellTimed ops ∧ ¬ (150 + 100 < 170) := by decide

/-! ## keys do not interact -/

/-- **frame property**: the verdicts on the arrivals of `k` are a function of the arrivals of `k` and the clean-ups alone –
    deleting every arrival of every other key from the history (and every other key from the repository) changes none
    of them.  Messages with different keys never suppress each other. -/
theorem keys_independent (w : Nat) (k : κ) (r : Repo κ) (ops : List (Op κ)) :
    verdictsOf k ops (run w r ops).2 =
      verdictsOf k (ops.filter (relevant k)) (run w (proj k r) (ops.filter (relevant k))).2 := by
  induction ops generalizing r with
  | nil => rfl
  | cons o rest ih =>
    rw [run_cons, List.filter_cons]
    cases ho : relevant k o with
    | true =>
      rw [if_pos rfl, run_cons, step_proj_of_relevant ho]
      exact verdictsOf_cons_congr (ih _)
    | false =>
      rw [if_neg Bool.false_ne_true, verdictsOf_cons_other fun t h => by simp [h, relevant] at ho, ih, proj_step_of_irrelevant ho]

/-! ## expiry -/

/-- general form: from a repository without `k`; `mid1` may contain anything as long as `k` is not accepted again in it,
    `mid2` anything but arrivals of `k` -/
theorem accepted_again_after_expiry_from (w : Nat) (r : Repo κ) (k : κ) (t1 tick tm t2 : Nat) (mid1 mid2 : List (Op κ))
    (habs : present r k = false)
    (hlast : ∀ x t, ¬ acceptedFrom w ((k, t1 + w) :: r) mid1 x k t)
    (hexp : t1 + w < tick)
    (hfirst : ∀ t, Op.arrive k t ∉ mid2) :
    acceptedFrom w r (.arrive k t1 :: (mid1 ++ .clean tick tm :: (mid2 ++ [.arrive k t2])))
      (1 + (mid1.length + (1 + mid2.length))) k t2 := by
  have hl : mid1.length + (1 + mid2.length) = (mid1 ++ .clean tick tm :: mid2).length := by simp; omega
  have h1 : AllAt ((k, t1 + w) :: r) k (t1 + w) := fun e' hm =>
    (List.mem_cons.mp hm).elim (fun h => (Prod.mk.inj h).2) fun h => absurd h (present_false_iff.mp habs e')
  rw [Nat.add_comm 1, acceptedFrom_cons_succ, step_arrive, isDup_absent habs, ← List.cons_append,
    ← List.append_assoc, hl, acceptedFrom_concat, present_false_iff]
  exact absent_after_clean h1 hlast hexp hfirst

/-- **accepted again after expiry**: `k` was accepted at `t1`; it was not accepted again before a clean-up whose tick is
    past its expiry `t1 + w` ran; then the first arrival of `k` after that clean-up is accepted (whatever else arrives
    and however many other clean-ups run in between). -/
theorem accepted_again_after_expiry (w : Nat) (pre mid1 mid2 : List (Op κ)) (k : κ) (t1 tick tm t2 : Nat)
    (hacc : accepted w (pre ++ [.arrive k t1]) pre.length k t1)
    (hlast : ∀ x t, ¬ acceptedFrom w (run w [] (pre ++ [.arrive k t1])).1 mid1 x k t)
    (hexp : t1 + w < tick)
    (hfirst : ∀ t, Op.arrive k t ∉ mid2) :
    accepted w (pre ++ (.arrive k t1 :: (mid1 ++ .clean tick tm :: (mid2 ++ [.arrive k t2]))))
      (pre.length + (1 + (mid1.length + (1 + mid2.length)))) k t2 := by
  unfold accepted at hacc ⊢
  have hp := acceptedFrom_concat.mp hacc
  rw [run_append, run_cons, step_arrive, isDup_absent hp] at hlast
  rw [acceptedFrom_append_right]
  exact accepted_again_after_expiry_from w _ k t1 tick tm t2 mid1 mid2 hp hlast hexp hfirst

/-- **a re-accepted sentinel proves the clean-up ran**: `z` is known with expiry `ez`, every entry of `p` expires no later
    (`ep ≤ ez`), `p` does not arrive in `ops`, and the `j`-th operation of `ops` is an accepted arrival of `z`.  Then `p` is
    forgotten by then: a clean-up removes *every* entry that expired before its tick, however many there are.  (This is the
    inference the `volume` cases of the harness make on the real repository – without any wall-clock bound.) -/
theorem sentinel_reaccepted_probe_forgotten (w : Nat) (r : Repo κ) (z p : κ) (ez ep : Nat) (ops : List (Op κ)) (j tj : Nat)
    (hz : (z, ez) ∈ r) (hp : AllAt r p ep) (hle : ep ≤ ez) (hno : ∀ t, Op.arrive p t ∉ ops)
    (hj : acceptedFrom w r ops j z tj) : absent (run w r (ops.take j)).1 p := by
  obtain ⟨tick, tm, hc, hlt⟩ := cleaned_before_accept hz hj
  obtain ⟨a, b, hab⟩ := List.append_of_mem hc
  have hno' : ∀ t, Op.arrive p t ∉ ops.take j := fun t hm => hno t (List.mem_of_mem_take hm)
  rw [hab] at hno' ⊢
  exact absent_after_clean hp
    (fun x t hx => hno' t (List.mem_append_left _ (List.mem_of_getElem? hx.1))) (by omega)
    fun t hm => hno' t (List.mem_append_right _ (List.mem_cons_of_mem _ hm))

/-- … so the probe's next arrival is accepted -/
theorem sentinel_reaccepted_probe_accepted (w : Nat) (r : Repo κ) (z p : κ) (ez ep : Nat) (ops : List (Op κ)) (j tj t : Nat)
    (hz : (z, ez) ∈ r) (hp : AllAt r p ep) (hle : ep ≤ ez) (hno : ∀ t, Op.arrive p t ∉ ops) (hzp : z ≠ p)
    (hj : acceptedFrom w r ops j z tj) :
    acceptedFrom w r (ops.take (j + 1) ++ [.arrive p t]) (j + 1) p t := by
  obtain ⟨hlen, _⟩ := List.getElem?_eq_some_iff.mp hj.1
  have htake : ops.take (j + 1) = ops.take j ++ [.arrive z tj] := by rw [List.take_add_one, hj.1]; rfl
  have hl : j + 1 = (ops.take j ++ [Op.arrive z tj]).length := by simp; omega
  rw [htake, hl, acceptedFrom_concat, present_false_iff, run_append]
  exact absent_step (o := .arrive z tj) (sentinel_reaccepted_probe_forgotten w r z p ez ep ops j tj hz hp hle hno hj)
    fun t h => hzp (by cases h; rfl)

/-! ## concurrency -/

/-- **exactly one**: take any list of operations – arrivals of any keys from any number of goroutines in any order,
    clean-ups in between – in which `k` arrives at least once and no clean-up uses a tick past the window of an arrival of
    `k`; started from a repository that does not know `k`, exactly one arrival of `k` is accepted. -/
theorem concurrent_exactly_one (w : Nat) (k : κ) (r : Repo κ) (ops : List (Op κ))
    (habs : present r k = false)
    (hex : ∃ t, Op.arrive k t ∈ ops)
    (hticks : ∀ tick tm t, Op.clean tick tm ∈ ops → Op.arrive k t ∈ ops → tick ≤ t + w) :
    (verdictsOf k ops (run w r ops).2).count false = 1 := by
  induction ops generalizing r with
  | nil => obtain ⟨t, ht⟩ := hex; cases ht
  | cons o rest ih =>
    rw [run_cons]
    by_cases ho : ∃ t, o = .arrive k t
    · -- the first arrival of `k` is accepted, and what it writes outlives every clean-up of the rest
      obtain ⟨t, rfl⟩ := ho
      rw [step_arrive, isDup_absent habs, verdictsOf_cons_arrive, if_pos rfl, List.count_cons_self,
        no_accept_while_held List.mem_cons_self
          fun tick tm hm => hticks tick tm t (List.mem_cons_of_mem _ hm) List.mem_cons_self]
    · have ho : ∀ t, o ≠ .arrive k t := fun t h => ho ⟨t, h⟩
      rw [verdictsOf_cons_other ho]
      refine ih _ (present_false_iff.mpr (absent_step (present_false_iff.mp habs) ho)) ?_
        fun tick tm t h1 h2 => hticks tick tm t (List.mem_cons_of_mem _ h1) (List.mem_cons_of_mem _ h2)
      obtain ⟨t, ht⟩ := hex
      exact ⟨t, (List.mem_cons.mp ht).resolve_left (ho t).symm⟩

/-- the same with the side condition phrased on the clock: everything happens within one window `[t0, t0 + w]` -/
theorem concurrent_exactly_one_window (w : Nat) (k : κ) (r : Repo κ) (ops : List (Op κ)) (t0 : Nat)
    (habs : present r k = false) (hwt : WellTimedFrom t0 ops)
    (hwin : ∀ o ∈ ops, o.time ≤ t0 + w)
    (hex : ∃ t, Op.arrive k t ∈ ops) :
    (verdictsOf k ops (run w r ops).2).count false = 1 := by
  refine concurrent_exactly_one w k r ops habs hex fun tick tm t hc ha => ?_
  have h1 : tm ≤ t0 + w := hwin _ hc
  have h2 : t0 ≤ t := (wellTimedFrom_mem hwt ha).1
  have h3 : tick ≤ tm := (wellTimedFrom_mem hwt hc).2
  omega

/-! ## middleware -/

/-- **a duplicate is dropped as a success**: `(nil, nil)`, the handler is not invoked, nothing is written -/
theorem middleware_drop_is_success {ρ : Type} (w : Nat) (r : Repo κ) (k : κ) (now : Nat) (h : ρ)
    (hp : present r k = true) : middleware w r (.key k) now h = (r, .dropped, 0) := by
  simp [middleware, dIsDup, isDup, hp, mwDecide]

/-- the first message of a key reaches the handler exactly once and the handler's result is returned unchanged -/
theorem middleware_first_reaches_handler {ρ : Type} (w : Nat) (r : Repo κ) (k : κ) (now : Nat) (h : ρ)
    (hp : present r k = false) : middleware w r (.key k) now h = ((k, now + w) :: r, .handled h, 1) := by
  simp [middleware, dIsDup, isDup, hp, mwDecide]

/-- a failing key factory: the error is returned, the handler is not invoked, the repository is untouched -/
theorem middleware_key_error {ρ : Type} (w : Nat) (r : Repo κ) (now : Nat) (h : ρ) :
    middleware w r (.err : KeyRes κ) now h = (r, .keyErr, 0) := by
  simp [middleware, dIsDup, mwDecide]

/-- the middleware is the repository step plus a decision: handler invocations = accepted arrivals -/
theorem middleware_calls_iff_accepted {ρ : Type} (w : Nat) (r : Repo κ) (k : κ) (now : Nat) (h : ρ) :
    (middleware w r (.key k) now h).1 = (step w r (.arrive k now)).1 ∧
    ((middleware w r (.key k) now h).2.2 = 1 ↔ (step w r (.arrive k now)).2 = .verdict false) ∧
    ((middleware w r (.key k) now h).2.2 = 0 ↔ (step w r (.arrive k now)).2 = .verdict true) ∧
    ((middleware w r (.key k) now h).2.1 = .dropped ↔ (step w r (.arrive k now)).2 = .verdict true) := by
  cases hp : present r k <;> simp [middleware, dIsDup, isDup, hp, mwDecide, step]

/-- once `k` is known, no message of key `k` reaches the handler (within the window: no clean-up in between) -/
theorem middleware_none_after_first (w : Nat) (k : κ) (r : Repo κ) (calls : List (KeyRes κ × Nat))
    (hp : present r k = true) : mwCalls w r k calls = 0 := by
  obtain ⟨e, he⟩ := present_iff.mp hp
  rw [mwCalls_eq_count]
  exact no_accept_while_held he fun tick tm hm => absurd hm clean_not_mem_arrivalsOf

/-- **exactly one message per key reaches the handler**: any sequence of middleware invocations (any keys, key-factory
    failures in between, any handler results; no clean-up in between), started from a repository that does not know
    `k`, in which `k` occurs: the handler is invoked exactly once for key `k` -/
theorem middleware_exactly_one (w : Nat) (k : κ) (r : Repo κ) (calls : List (KeyRes κ × Nat))
    (habs : present r k = false) (hex : ∃ now, (KeyRes.key k, now) ∈ calls) : mwCalls w r k calls = 1 := by
  obtain ⟨now, hnow⟩ := hex
  rw [mwCalls_eq_count]
  exact concurrent_exactly_one w k r _ habs
    ⟨now, mem_arrivalsOf.mpr ⟨⟨0, .key k, now⟩, List.mem_map.mpr ⟨_, hnow, rfl⟩, k, rfl, rfl⟩⟩
    fun tick tm t hm => absurd hm clean_not_mem_arrivalsOf

/-- **a delivery that is rejected with an error has not used up the key**: whenever `Deduplicator.IsDuplicate` answers with
    an error the repository is unchanged, so the redelivery of that message is judged as if the failed one had never come
    (in the model the only error source is the key factory; the map repository itself returns no error and does not look
    at its context – structural fact `isdup_ctx_parameter_unused` and the generated tie, whose `ret` statements must
    return a `nil` error) -/
theorem error_does_not_consume_key (w : Nat) (r : Repo κ) (kr : KeyRes κ) (now : Nat)
    (h : (dIsDup w r kr now).2 = .err) : (dIsDup w r kr now).1 = r := by
  cases kr with
  | err => rfl
  | key k => cases hp : present r k <;> simp [dIsDup, isDup, hp] at h

/-- … and the middleware then neither invokes the handler nor remembers anything -/
theorem middleware_error_is_clean {ρ : Type} (w : Nat) (r : Repo κ) (kr : KeyRes κ) (now : Nat) (h : ρ)
    (he : (middleware w r kr now h).2.1 = .keyErr) :
    (middleware w r kr now h).1 = r ∧ (middleware w r kr now h).2.2 = 0 := by
  cases kr with
  | err => simp [middleware, dIsDup, mwDecide]
  | key k => cases hp : present r k <;> simp [middleware, dIsDup, isDup, hp, mwDecide] at he

/-! ## publisher decorator -/

/-- **the decorator filters and acks** (all messages of the batch have keys): the repository goes through exactly the
    arrivals of the batch, in order; the wrapped publisher is called once with exactly the messages whose verdict was
    "not a duplicate", in order; exactly the duplicates are acked; the wrapped publisher's result is returned.
    Together with `decorator_key_error_aborts` this covers every batch (`decorator_cases_exhaustive`). -/
theorem decorator_filters_and_acks (w : Nat) (r : Repo κ) (msgs : List (PMsg κ)) (innerFails : Bool)
    (hall : ∀ m ∈ msgs, hasKey m = true) :
    decorate w r msgs innerFails =
      ((run w r (arrivalsOf msgs)).1,
       { acked := sel true (msgs.map (·.id)) (run w r (arrivalsOf msgs)).2,
         forwarded := some (sel false (msgs.map (·.id)) (run w r (arrivalsOf msgs)).2),
         err := if innerFails then .inner else .none }) := by
  rw [decorate, ← List.append_nil msgs, decLoop_keyed hall]
  simp [decLoop]

/-- a key-factory (or repository) error on `m` aborts the call: the error is returned, the wrapped publisher is **not**
    called, the duplicates before `m` stay acked and – the finding `batch-aborted-after-accept` – the keys accepted before
    `m` stay remembered -/
theorem decorator_key_error_aborts (w : Nat) (r : Repo κ) (pre post : List (PMsg κ)) (m : PMsg κ) (innerFails : Bool)
    (hpre : ∀ x ∈ pre, hasKey x = true) (hm : m.key = .err) :
    decorate w r (pre ++ m :: post) innerFails =
      ((run w r (arrivalsOf pre)).1,
       { acked := sel true (pre.map (·.id)) (run w r (arrivalsOf pre)).2, forwarded := none, err := .key }) := by
  simp [decorate, decLoop_keyed hpre, decLoop, hm, dIsDup]

theorem decorator_cases_exhaustive (msgs : List (PMsg κ)) :
    (∀ m ∈ msgs, hasKey m = true) ∨
    ∃ pre m post, msgs = pre ++ m :: post ∧ (∀ x ∈ pre, hasKey x = true) ∧ m.key = .err := by
  induction msgs with
  | nil => exact Or.inl fun m hm => absurd hm List.not_mem_nil
  | cons x rest ih =>
    cases hx : x.key with
    | err => exact Or.inr ⟨[], x, rest, rfl, fun y hy => absurd hy List.not_mem_nil, hx⟩
    | key k =>
      have hxk : hasKey x = true := by simp [hasKey, hx]
      rcases ih with h | ⟨pre, m, post, rfl, hpre, hm⟩
      · exact Or.inl (List.forall_mem_cons.mpr ⟨hxk, h⟩)
      · exact Or.inr ⟨x :: pre, m, post, rfl, List.forall_mem_cons.mpr ⟨hxk, hpre⟩, hm⟩

/-- the decision of the `Publish` loop over *any* answers (= any interleaving with other goroutines): a message is
    forwarded iff its answer was "not a duplicate", acked iff "duplicate"; nothing is both -/
theorem decide_filters_and_acks (as : List (Nat × DupRes)) (hok : ∀ a ∈ as, a.2 ≠ .err) :
    decDecide as [] [] =
      ((as.filter (fun a => a.2 = .verdict false)).map (·.1), (as.filter (fun a => a.2 = .verdict true)).map (·.1), false) := by
  suffices ∀ fw ak, decDecide as fw ak =
      (fw.reverse ++ (as.filter (fun a => a.2 = .verdict false)).map (·.1),
       ak.reverse ++ (as.filter (fun a => a.2 = .verdict true)).map (·.1), false) by simpa using this [] []
  induction as with
  | nil => intro fw ak; simp [decDecide]
  | cons a rest ih =>
    intro fw ak
    have ih := ih fun a ha => hok a (List.mem_cons_of_mem _ ha)
    obtain ⟨i, x⟩ := a
    cases x with
    | err => exact absurd rfl (hok _ List.mem_cons_self)
    | verdict b => cases b <;> simp [decDecide, ih]

/-- the executable loop is the decision applied to the answers the batch gets -/
theorem decorate_eq_decide (w : Nat) (r : Repo κ) (msgs : List (PMsg κ)) :
    decLoop w r msgs [] [] = ((answers w r msgs).1, decDecide (answers w r msgs).2 [] []) :=
  decLoop_eq_decide

/-- **witness of the finding** `batch-aborted-after-accept`: message 0 (key "a") is accepted, the key factory then fails on
    message 1, so nothing is forwarded; the next `Publish` of a message with key "a" acks and drops it – no message
    with key "a" ever reached the wrapped publisher.  Hence "exactly one reaches the wrapped publisher" needs the guard
    "no key-factory/repository error in a batch" (`decorator_filters_and_acks`). -/
theorem decorator_abort_loses_accepted_witness :
    let c1 := decorate 10 ([] : Repo String) [⟨0, .key "a", 0⟩, ⟨1, .err, 1⟩] false
    let c2 := decorate 10 c1.1 [⟨0, .key "a", 2⟩] false
    c1.2 = ⟨[], none, .key⟩ ∧ c2.2 = ⟨[0], some [], .none⟩ := by decide

/-- a sequence of `Publish` calls without key-factory errors is one run of the repository over all arrivals; what the
    wrapped publisher received, over all calls, are exactly the messages whose verdict was "not a duplicate" -/
theorem decRun_spec (w : Nat) (r : Repo κ) (calls : List (List (PMsg κ) × Bool))
    (hall : ∀ c ∈ calls, ∀ m ∈ c.1, hasKey m = true) :
    (decRun w r calls).1 = (run w r (arrivalsOf (calls.flatMap (·.1)))).1 ∧
    (decRun w r calls).2.flatMap (fun o => o.forwarded.getD []) =
      (selMsgs false (calls.flatMap (·.1)) (run w r (arrivalsOf (calls.flatMap (·.1)))).2).map (·.id) ∧
    (decRun w r calls).2.flatMap (·.acked) =
      (selMsgs true (calls.flatMap (·.1)) (run w r (arrivalsOf (calls.flatMap (·.1)))).2).map (·.id) := by
  induction calls generalizing r with
  | nil => simp [decRun, arrivalsOf, run_nil, selMsgs]
  | cons c cs ih =>
    have hc : ∀ m ∈ c.1, hasKey m = true := hall c List.mem_cons_self
    have hcs := ih (run w r (arrivalsOf c.1)).1 fun c' hc' => hall c' (List.mem_cons_of_mem _ hc')
    have hlen : (run w r (arrivalsOf c.1)).2.length = c.1.length := by rw [run_length, arrivalsOf_length hc]
    simp only [decRun, decorator_filters_and_acks w r c.1 c.2 hc, List.flatMap_cons, arrivalsOf_append, run_append,
      Option.getD_some, selMsgs_append hlen, List.map_append, sel_map_id]
    exact ⟨hcs.1, by rw [hcs.2.1], by rw [hcs.2.2]⟩

/-- **exactly one reaches the wrapped publisher** – proved under the guard `hall` "the key factory fails on no message of
    any batch", which excludes the open finding `batch-aborted-after-accept` (`decorator_abort_loses_accepted_witness`
    shows the statement is false without it).  Full statement (not provable, see the witness): the same without `hall`.
    For any sequence of `Publish` calls (any batches, any wrapped-publisher failures) within the window, started from a
    repository that does not know `k`: of all messages with key `k` exactly one is handed to the wrapped publisher. -/
theorem decorator_exactly_one_reaches_partial (w : Nat) (k : κ) (r : Repo κ) (calls : List (List (PMsg κ) × Bool))
    (hall : ∀ c ∈ calls, ∀ m ∈ c.1, hasKey m = true)
    (habs : present r k = false)
    (hex : ∃ c ∈ calls, ∃ m ∈ c.1, m.key = .key k) :
    ((selMsgs false (calls.flatMap (·.1)) (run w r (arrivalsOf (calls.flatMap (·.1)))).2).filter
        (fun m => decide (m.key = .key k))).length = 1 := by
  obtain ⟨c, hc, m, hm, hk⟩ := hex
  rw [selMsgs_count fun m hm => by obtain ⟨c, hc, hmc⟩ := List.mem_flatMap.mp hm; exact hall c hc m hmc]
  exact concurrent_exactly_one w k r _ habs
    ⟨m.now, mem_arrivalsOf.mpr ⟨m, List.mem_flatMap.mpr ⟨c, hc, hm⟩, k, hk, rfl⟩⟩
    fun tick tm t hcl => absurd hcl clean_not_mem_arrivalsOf

/-! ## one Deduplicator, one state -/

/-- **wrappers built from one Deduplicator share its state**: a key that got through the middleware is a duplicate for the
    publisher decorator working on the same repository (acked, not forwarded) … -/
theorem middleware_then_decorator_drops {ρ : Type} (w : Nat) (r : Repo κ) (k : κ) (now now' id : Nat) (h : ρ) (f : Bool)
    (hp : present r k = false) :
    (decorate w (middleware w r (.key k) now h).1 [⟨id, .key k, now'⟩] f).2 =
      ⟨[id], some [], if f then .inner else .none⟩ := by
  simp [middleware, dIsDup, isDup, hp, mwDecide, decorate, decLoop, present_cons_self]

/-- … and a key that the decorator forwarded is dropped as a success by the middleware -/
theorem decorator_then_middleware_drops {ρ : Type} (w : Nat) (r : Repo κ) (k : κ) (now now' id : Nat) (h : ρ) (f : Bool)
    (hp : present r k = false) :
    (middleware w (decorate w r [⟨id, .key k, now⟩] f).1 (.key k) now' h).2 = (.dropped, 0) := by
  simp [middleware, dIsDup, isDup, hp, mwDecide, decorate, decLoop, present_cons_self]

/-! ## the map really is a map -/

/-- in every reachable repository every key has at most one entry (the association list is a faithful `map`) -/
theorem nodup_keys (w : Nat) (ops : List (Op κ)) : ((run w ([] : Repo κ) ops).1.map Prod.fst).Nodup := by
  suffices ∀ r : Repo κ, (r.map Prod.fst).Nodup → ((run w r ops).1.map Prod.fst).Nodup from this [] List.nodup_nil
  induction ops with
  | nil => exact fun r h => h
  | cons o rest ih =>
    intro r h
    rw [run_cons]
    refine ih _ ?_
    cases o with
    | arrive k t =>
      cases hp : present r k with
      | true => rwa [step_arrive, isDup_present hp]
      | false =>
        rw [step_arrive, isDup_absent hp]
        refine List.nodup_cons.mpr ⟨fun hm => ?_, h⟩
        obtain ⟨⟨k', e⟩, hmem, rfl⟩ := List.mem_map.mp hm
        exact present_false_iff.mp hp e hmem
    | clean tick tm => exact List.Nodup.sublist (List.Sublist.map _ List.filter_sublist) h

/-- a duplicate arrival writes nothing: the expiry is neither refreshed nor checked -/
theorem duplicate_does_not_refresh (w : Nat) (r : Repo κ) (k : κ) (now : Nat) (h : present r k = true) :
    (step w r (.arrive k now)).1 = r := by
  rw [step_arrive, isDup_present h]

/-! ## key factories -/

/-- "equal up to the read limit" = equal at every position below it -/
theorem take_eq_iff {α : Type} (n : Nat) (p q : List α) :
    p.take n = q.take n ↔ ∀ i, i < n → p[i]? = q[i]? := by
  rw [List.ext_getElem?_iff]
  simp only [List.getElem?_take]
  constructor
  · intro h i hi
    simpa [hi] using h i
  · intro h i
    split
    · exact h i ‹_›
    · rfl

/-- the effective read limit is never below `MessageHasherReadLimitMinimum` and otherwise the configured one -/
theorem effLimit_spec (limit : Int) :
    64 ≤ effLimit limit ∧ (64 ≤ limit → (effLimit limit : Int) = limit) ∧ (limit < 64 → effLimit limit = 64) := by
  unfold effLimit readLimitMinimum
  split <;> omega

/-- **equal keys for payloads equal up to the read limit** – for every digest `H` (Adler-32, SHA-256, …), every limit -/
theorem hash_equal_prefix {κ' : Type} (H : List UInt8 → κ') (limit : Int) (p q : List UInt8)
    (h : ∀ i, i < effLimit limit → p[i]? = q[i]?) : hasherKey H limit p = hasherKey H limit q := by
  unfold hasherKey
  rw [(take_eq_iff _ p q).mpr h]

/-- **different keys for payloads that differ within the read limit** – *given* that the digest does not collide on the two
    prefixes.  For SHA-256 this hypothesis is the cryptographic assumption (collision resistance); it is not and cannot be
    a theorem, the harness tests it on generated pairs.  (Full statement without `hinj`: false for every digest with a
    finite range.) -/
theorem sha_distinct_partial {κ' : Type} (H : List UInt8 → κ') (limit : Int) (p q : List UInt8)
    (hinj : H (p.take (effLimit limit)) = H (q.take (effLimit limit)) → p.take (effLimit limit) = q.take (effLimit limit))
    (i : Nat) (hi : i < effLimit limit) (hdiff : p[i]? ≠ q[i]?) : hasherKey H limit p ≠ hasherKey H limit q := fun heq =>
  hdiff ((take_eq_iff _ p q).mp (hinj heq) i hi)

/-- the payload hashers read nothing but the payload prefix: bytes at or beyond the limit never matter -/
theorem hash_ignores_tail {κ' : Type} (H : List UInt8 → κ') (limit : Int) (p tail tail' : List UInt8)
    (hlen : effLimit limit ≤ p.length) : hasherKey H limit (p ++ tail) = hasherKey H limit (p ++ tail') := by
  unfold hasherKey
  rw [List.take_append_of_le_length hlen, List.take_append_of_le_length hlen]

/-! ## non-vacuity: concrete non-trivial instances of the hypotheses -/

section examples
open Op

/-- window 10; "a" accepted at 0, duplicate at 5 and at 12 (expired but not yet cleaned), clean-up with tick 11 at 13, accepted at 14 -/
def exOps : List (Op String) :=
  [arrive "a" 0, arrive "b" 1, arrive "a" 5, clean 4 6, arrive "a" 12, clean 11 13, arrive "a" 14, arrive "b" 15]

example : WellTimed exOps := by decide
example : (run 10 [] exOps).2 =
    [.verdict false, .verdict false, .verdict true, .cleaned, .verdict true, .cleaned, .verdict false, .verdict true] := by decide
example : accepted 10 exOps 0 "a" 0 ∧ accepted 10 exOps 6 "a" 14 := by decide
example : (0 : Nat) + 10 < 14 := by decide     -- what `one_per_window` concludes for the two of them
example : verdictsOf "a" exOps (run 10 [] exOps).2 = [false, true, true, false] := by decide
example : verdictsOf "a" (exOps.filter (relevant "a")) (run 10 [] (exOps.filter (relevant "a"))).2 = [false, true, true, false] := by decide
-- hypotheses of `accepted_again_after_expiry` with pre = [], mid1 = [b, a@5, clean 4, a@12], mid2 = []
example : accepted 10 ([] ++ [arrive "a" 0]) 0 "a" 0 := by decide
example : ∀ x, x < 4 → ¬ acceptedFrom 10 (run 10 [] ([] ++ [arrive "a" 0])).1
    [arrive "b" 1, arrive "a" 5, clean 4 6, arrive "a" 12] x "a" (match x with | 1 => 5 | _ => 12) := by decide
-- `sentinel_reaccepted_probe_forgotten`: probe "p" (expiry 10) and sentinel "z" (expiry 12) are known, "z" is accepted again at index 2
example : acceptedFrom 10 [("z", 12), ("p", 10)] [arrive "q" 11, clean 13 13, arrive "z" 14] 2 "z" 14 := by decide
example : (run 10 [("z", 12), ("p", 10)] ([arrive "q" 11, clean 13 13, arrive "z" 14].take 2)).1 = [("q", 21)] := by decide
-- `concurrent_exactly_one`: five arrivals of "a" and two of "b" in one window, a clean-up in between
def exConc : List (Op String) := [arrive "a" 3, arrive "b" 3, arrive "a" 3, clean 3 4, arrive "a" 4, arrive "b" 5, arrive "a" 5, arrive "a" 9]
example : WellTimedFrom 3 exConc ∧ (∀ o ∈ exConc, o.time ≤ 3 + 10) := by decide
example : (verdictsOf "a" exConc (run 10 [] exConc).2).count false = 1 ∧
          (verdictsOf "b" exConc (run 10 [] exConc).2).count false = 1 := by decide
-- middleware: first reaches the handler, second is dropped
example : (middleware 10 ([] : Repo String) (.key "a") 0 "result").2 = (.handled "result", 1) := by decide
example : (middleware 10 [("a", 10)] (.key "a") 3 "result") = ([("a", 10)], .dropped, 0) := by decide
example : mwCalls 10 ([] : Repo String) "a" [(.key "a", 0), (.err, 1), (.key "b", 2), (.key "a", 3), (.key "a", 4)] = 1 := by decide
-- decorator: batch a b a with "b" already known: forwards 0, acks 1 and 2
example : (decorate 10 [("b", 10)] [⟨0, .key "a", 1⟩, ⟨1, .key "b", 2⟩, ⟨2, .key "a", 3⟩] false).2 =
    ⟨[1, 2], some [0], .none⟩ := by decide
-- two Publish calls over keys a, b: one "a" and one "b" are forwarded, the rest acked (guard of the _partial theorem holds)
example : (decRun 10 ([] : Repo String) [([⟨0, .key "a", 1⟩, ⟨1, .key "b", 2⟩, ⟨2, .key "a", 3⟩], false), ([⟨0, .key "b", 4⟩, ⟨1, .key "a", 5⟩], true)]).2 =
    [⟨[2], some [0, 1], .none⟩, ⟨[0, 1], some [], .inner⟩] := by decide
-- hashers: limit 0 is clamped to 64; byte 64 is not read, byte 63 is
example : effLimit 0 = 64 ∧ effLimit (-5) = 64 ∧ effLimit 100 = 100 := by decide
example : hasherKey adler32 0 (List.replicate 64 1 ++ [7]) = hasherKey adler32 0 (List.replicate 64 1 ++ [9]) := by decide
example : hasherKey adler32 0 (List.replicate 63 1 ++ [7]) ≠ hasherKey adler32 0 (List.replicate 63 1 ++ [9]) := by decide
example : adler32 [0x57, 0x69, 0x6b, 0x69, 0x70, 0x65, 0x64, 0x69, 0x61] = 0x11E60398 := by decide  -- "Wikipedia"
example : metaKey "f" [("g", "x"), ("f", "")] = .key "" ∧ metaKey "f" [("g", "x")] = .err := by decide

end examples

end Wm.Dedup
