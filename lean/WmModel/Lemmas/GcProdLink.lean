import WmModel.Lemmas.GcProdProj
import WmModel.Lemmas.GcRegC11
import WmModel.Props.C11Reg
import WmModel.Props.C05Reg
namespace Wm.GcProd
open Wm Wm.Lts

/-- the bookkeeping that ties the two components together -/
structure LinkOk (me : Nat) (s : St) : Prop where
  /-- the M_sub instance exists exactly from the moment id `me` has been handed out -/
  created : s.sub.isSome = true ↔ me < s.reg.nextSid
  /-- the senders started for `me` are the publications 0, 1, 2, … of its M_sub instance, in order -/
  pubs : ∀ q, s.sub = some q → s.snd.map (·.2.2) = List.range q.nextPub
  /-- … and carry the messages of M_reg's ghost list `started`, in order -/
  msgs : s.snd.map (·.2.1) = GcReg.sentTo s.reg me
  /-- a dispatcher has stopped waiting for `me` only after that sender ended in M_sub -/
  pending : ∀ q, s.sub = some q → ∀ d m p, (some d, m, p) ∈ s.snd → me ∈ (s.reg.disp[d]?.getD []) ∨ exited q p = true
  dlt : ∀ d m p, (some d, m, p) ∈ s.snd → d < s.reg.disp.length
  empty : s.sub = none → s.snd = []
  duniq : ∀ d m p m' p', (some d, m, p) ∈ s.snd → (some d, m', p') ∈ s.snd → p = p'

theorem link_init (me : Nat) (cfg : GcReg.Cfg) : LinkOk me (init cfg) := by
  constructor <;> simp [init, GcReg.init, GcReg.sentTo]

theorem exited_mono {q q' : GcSub.St} {ext : List (Nat × GcSub.Exit)} (he : q'.exits = q.exits ++ ext) {p : Nat}
    (h : exited q p = true) : exited q' p = true := by
  simp only [exited, he, List.any_append, Bool.or_eq_true]; exact .inl h

/-- what the link invariants read of an M_sub step: only `spawn` starts a publication, sender exits only accumulate,
    a closed subscription stays closed -/
theorem sub_keeps {q q' : GcSub.St} {a : GcSub.Action} (h : GcSub.act q a = some q') :
    (a ≠ .spawn → q'.nextPub = q.nextPub) ∧ (∃ ext, q'.exits = q.exits ++ ext) ∧ (q.closed = true → q'.closed = true) := by
  cases GcSub.step_of_act h with
  | spawn => exact ⟨fun ha => absurd rfl ha, ⟨[], (List.append_nil _).symm⟩, id⟩
  | leave => exact ⟨fun _ => rfl, ⟨[_], rfl⟩, id⟩
  | tdClose => exact ⟨fun _ => rfl, ⟨[], (List.append_nil _).symm⟩, fun _ => rfl⟩
  | _ => exact ⟨fun _ => rfl, ⟨[], (List.append_nil _).symm⟩, id⟩

/-- what an idle step of the instance keeps -/
theorem idle_keeps {o o' : Option GcSub.St} (h : Idle o o') :
    (o = none ∧ o' = none) ∨ ∃ q q', o = some q ∧ o' = some q' ∧ q'.nextPub = q.nextPub ∧
      (∃ ext, q'.exits = q.exits ++ ext) ∧ (q.closed = true → q'.closed = true) := by
  cases h with
  | same =>
    cases o with
    | none => exact .inl ⟨rfl, rfl⟩
    | some q => exact .inr ⟨q, q, rfl, rfl, rfl, ⟨[], (List.append_nil _).symm⟩, id⟩
  | step h ha => obtain ⟨h1, h2, h3⟩ := sub_keeps h; exact .inr ⟨_, _, rfl, rfl, h1 ha, h2, h3⟩

/-- the registry starts and finishes no sender and hands out no id that matters; the instance is idle -/
theorem link_frame {me : Nat} {s s' : St} (h : LinkOk me s) (hidle : Idle s.sub s'.sub)
    (hn : me < s'.reg.nextSid ↔ me < s.reg.nextSid) (hst : s'.reg.started = s.reg.started)
    (hd : s'.reg.disp = s.reg.disp) (hsnd : s'.snd = s.snd) : LinkOk me s' := by
  have hsent : GcReg.sentTo s'.reg me = GcReg.sentTo s.reg me := by simp only [GcReg.sentTo, hst]
  have old : ∀ q', s'.sub = some q' → ∃ q, s.sub = some q ∧ q'.nextPub = q.nextPub ∧ ∃ ext, q'.exits = q.exits ++ ext := by
    intro q' hq'
    rcases idle_keeps hidle with ⟨_, h0⟩ | ⟨q, q2, hq, hq2, hnp, hex, _⟩
    · rw [h0] at hq'; cases hq'
    · rw [hq2] at hq'; cases hq'; exact ⟨q, hq, hnp, hex⟩
  have hsome : s'.sub.isSome = s.sub.isSome := by
    rcases idle_keeps hidle with ⟨h0, h0'⟩ | ⟨q, q', hq, hq', _⟩
    · rw [h0, h0']
    · rw [hq, hq']; rfl
  refine ⟨by rw [hsome, hn]; exact h.created, ?_, by rw [hsnd, hsent]; exact h.msgs, ?_, by rw [hsnd, hd]; exact h.dlt, ?_,
    by rw [hsnd]; exact h.duniq⟩
  · intro q' hq'
    obtain ⟨q, hq, hnp, _⟩ := old q' hq'
    rw [hsnd, hnp]; exact h.pubs q hq
  · intro q' hq' d m p hm
    obtain ⟨q, hq, _, ext, hex⟩ := old q' hq'
    rw [hsnd] at hm; rw [hd]
    exact (h.pending q hq d m p hm).imp_right (exited_mono hex)
  · intro hx
    rw [hsnd]; refine h.empty ?_
    rw [hx] at hsome; exact Option.isSome_eq_false_iff.mp hsome.symm |> Option.isNone_iff_eq_none.mp

theorem started_one {od : Option Nat} {msgs : List Nat} {n : Nat} {e e' : Option Nat × Nat × Nat} (hl : msgs.length ≤ 1)
    (h : e ∈ started od msgs n) (h' : e' ∈ started od msgs n) : e = e' := by
  cases msgs with
  | nil => cases h
  | cons m rest =>
    cases rest with
    | nil => exact (List.mem_singleton.mp h).trans (List.mem_singleton.mp h').symm
    | cons _ _ => exact absurd hl (by simp)

/-- a registry step starts senders for `me`, one per message of `msgs`: `sendMessage` at most one, under its new
    dispatcher (which waits for `me`); the replay any number, under none -/
theorem link_spawn {me : Nat} {s : St} {r' : GcReg.St} {od : Option Nat} {msgs : List Nat} {ds : List (List Nat)}
    (h : LinkOk me s) (hn : r'.nextSid = s.reg.nextSid) (hsent : GcReg.sentTo r' me = GcReg.sentTo s.reg me ++ msgs)
    (hd : r'.disp = s.reg.disp ++ ds) (hex : msgs ≠ [] → me < s.reg.nextSid)
    (hod : ∀ d, od = some d → d = s.reg.disp.length ∧ msgs.length ≤ 1 ∧ (msgs ≠ [] → ∃ l, ds = [l] ∧ me ∈ l)) :
    LinkOk me ⟨r', (msgs.foldl (spawn1 od) (s.sub, s.snd)).1, (msgs.foldl (spawn1 od) (s.sub, s.snd)).2⟩ := by
  cases hs : s.sub with
  | none =>
    rw [foldl_spawn_none]
    cases msgs with
    | cons m rest => have := h.created.mpr (hex nofun); rw [hs] at this; cases this
    | nil =>
      have hnil : ∀ e, e ∉ s.snd := by rw [h.empty hs]; exact fun _ => List.not_mem_nil
      exact ⟨by rw [hn, ← h.created, hs], fun _ hq => (by cases hq), by rw [hsent, List.append_nil]; exact h.msgs,
        fun _ hq => (by cases hq), fun _ _ _ hm => absurd hm (hnil _), fun _ => h.empty hs, fun _ _ _ _ _ hm => absurd hm (hnil _)⟩
  | some q =>
    rw [foldl_spawn]
    have hne : ∀ {e}, e ∈ started od msgs q.nextPub → msgs ≠ [] := by rintro e he rfl; cases he
    refine ⟨by rw [hn, ← h.created, hs]; exact Iff.rfl, ?_, ?_, ?_, ?_, nofun, ?_⟩
    · intro q' hq'; cases hq'
      rw [List.map_append, h.pubs q hs, started_pubs, List.range_eq_range', List.range_eq_range']
      simpa using List.range'_append (s := 0) (m := q.nextPub) (n := msgs.length) (step := 1)
    · rw [List.map_append, h.msgs, started_msgs, hsent]
    · intro q' hq' d m p hm; cases hq'; rw [hd]
      rcases List.mem_append.mp hm with hm | hm
      · rw [List.getElem?_append_left (h.dlt d m p hm)]; exact h.pending q hs d m p hm
      · obtain ⟨rfl, _, hw⟩ := hod d (started_od hm).symm
        obtain ⟨l, rfl, hl⟩ := hw (hne hm)
        exact .inl (by rw [List.getElem?_concat_length]; exact hl)
    · intro d m p hm; rw [hd, List.length_append]
      rcases List.mem_append.mp hm with hm | hm
      · exact Nat.lt_add_right _ (h.dlt d m p hm)
      · obtain ⟨rfl, _, hw⟩ := hod d (started_od hm).symm
        obtain ⟨l, rfl, _⟩ := hw (hne hm)
        exact Nat.lt_succ_self _
    · intro d m p m' p' h1 h2
      rcases List.mem_append.mp h1 with h1 | h1 <;> rcases List.mem_append.mp h2 with h2 | h2
      · exact h.duniq d m p m' p' h1 h2
      · exact absurd (h.dlt d m p h1) (by rw [(hod d (started_od h2).symm).1]; exact Nat.lt_irrefl _)
      · exact absurd (h.dlt d m' p' h2) (by rw [(hod d (started_od h1).symm).1]; exact Nat.lt_irrefl _)
      · exact congrArg (·.2.2) (started_one (hod d (started_od h1).symm).2.1 h1 h2)

theorem mem_modify_erase {l : List (List Nat)} {d d' sid x : Nat} (h : x ∈ l[d']?.getD []) (hne : d' = d → x ≠ sid) :
    x ∈ (l.modify d (fun y => y.erase sid))[d']?.getD [] := by
  rw [List.getElem?_modify]
  cases hl : l[d']? with
  | none => rw [hl] at h; cases h
  | some y =>
    rw [hl] at h
    simp only [Option.getD_some] at h ⊢
    split
    · rename_i hdd; exact (List.mem_erase_of_ne (hne hdd.symm)).mpr h
    · exact h

/-- a dispatcher stops waiting for one sender: for `me` only if that sender has ended in M_sub -/
theorem link_senderDone {me : Nat} {s : St} {d sid : Nat} (h : LinkOk me s)
    (hdone : sid = me → ∃ q, s.sub = some q ∧ s.snd.any (fun e => e.1 == some d && exited q e.2.2) = true) :
    LinkOk me ⟨GcReg.finishSender s.reg d sid, s.sub, s.snd⟩ := by
  refine ⟨h.created, h.pubs, h.msgs, ?_, fun d' m p hm => (List.length_modify ..).symm ▸ h.dlt d' m p hm, h.empty, h.duniq⟩
  intro q hq d' m p hm
  by_cases hc : d' = d ∧ sid = me
  · -- the sender reported done is this one (one entry per dispatcher), and it has ended in M_sub
    obtain ⟨q0, hq0, hany⟩ := hdone hc.2
    rw [hq] at hq0; cases hq0
    obtain ⟨⟨od, m2, p2⟩, hm2, hx⟩ := List.any_eq_true.mp hany
    simp only [Bool.and_eq_true, beq_iff_eq] at hx
    obtain ⟨rfl, hex⟩ := hx
    rw [h.duniq d' m p m2 p2 hm (hc.1 ▸ hm2)]; exact .inr hex
  · exact (h.pending q hq d' m p hm).imp_left (fun h1 => mem_modify_erase h1 (fun hdd hms => hc ⟨hdd, hms.symm⟩))

/-- `sendMessage` for the head of a batch: a dispatcher with the snapshot, a sender for `me` if it is in it -/
theorem link_send {me t m : Nat} {s : St} {r' : GcReg.St} (h : LinkOk me s) (haux : GcReg.AuxOk s.reg)
    (hn : r'.nextSid = s.reg.nextSid)
    (hst : r'.started = s.reg.started ++ (GcReg.subsOf s.reg t).map (fun sid => (sid, m)))
    (hd : r'.disp = s.reg.disp ++ [GcReg.subsOf s.reg t]) :
    LinkOk me ⟨r', ((if me ∈ GcReg.subsOf s.reg t then [m] else []).foldl (spawn1 (some s.reg.disp.length)) (s.sub, s.snd)).1,
      ((if me ∈ GcReg.subsOf s.reg t then [m] else []).foldl (spawn1 (some s.reg.disp.length)) (s.sub, s.snd)).2⟩ := by
  have hsent : GcReg.sentTo r' me = GcReg.sentTo s.reg me ++ if me ∈ GcReg.subsOf s.reg t then [m] else [] := by
    rw [GcReg.sentTo_eq, hst, GcReg.projL_append, GcReg.projL_snapshot _ _ _ (GcReg.subsOf_nodup s.reg t haux.2.2.2.2)]; rfl
  by_cases hin : me ∈ GcReg.subsOf s.reg t
  · rw [if_pos hin] at hsent ⊢
    -- registered, so its id was handed out and the instance exists
    exact link_spawn h hn hsent hd (fun _ => haux.1 me t ((GcReg.mem_subsOf s.reg t me).mp hin))
      (fun d hd => ⟨(Option.some.inj hd).symm, Nat.le_refl 1, fun _ => ⟨_, rfl, hin⟩⟩)
  · rw [if_neg hin] at hsent ⊢
    exact link_spawn h hn hsent hd (fun hne => absurd rfl hne)
      (fun d hd => ⟨(Option.some.inj hd).symm, Nat.zero_le 1, fun hne => absurd rfl hne⟩)

/-- Subscribe's replay of the backlog, and `addSubscriber` -/
theorem link_register {me t sid : Nat} {s : St} {r' : GcReg.St} (h : LinkOk me s) (hsid : sid < s.reg.nextSid)
    (hn : r'.nextSid = s.reg.nextSid) (hd : r'.disp = s.reg.disp)
    (hst : r'.started = s.reg.started ++
      if s.reg.cfg.persistent && !s.reg.logNil then (s.reg.log.filter (·.1 == t)).map (fun tm => (sid, tm.2)) else []) :
    LinkOk me ⟨r', ((if sid = me then replayMsgs s.reg t else []).foldl (spawn1 none) (s.sub, s.snd)).1,
      ((if sid = me then replayMsgs s.reg t else []).foldl (spawn1 none) (s.sub, s.snd)).2⟩ := by
  have hsent : GcReg.sentTo r' me = GcReg.sentTo s.reg me ++ if sid = me then replayMsgs s.reg t else [] := by
    rw [GcReg.sentTo_eq, hst, GcReg.projL_append, replayMsgs]
    cases s.reg.cfg.persistent && !s.reg.logNil
    · simp [GcReg.projL, GcReg.sentTo]
    · simp only [if_true, GcReg.projL_replay, eq_comm (a := me)]; rfl
  refine link_spawn (ds := []) h hn hsent (by rw [hd, List.append_nil]) (fun hne => ?_) nofun
  by_cases hsm : sid = me
  · exact hsm ▸ hsid
  · rw [if_neg hsm] at hne; exact absurd rfl hne

/-- Subscribe creates the subscriber object of `me` -/
theorem link_create {me cap : Nat} {s : St} {r' : GcReg.St} (h : LinkOk me s) (hme : s.reg.nextSid = me) (ho : s.sub = none)
    (hn : r'.nextSid = s.reg.nextSid + 1) (hst : r'.started = s.reg.started) :
    LinkOk me ⟨r', some (createSt cap s.reg), s.snd⟩ := by
  have hnil : ∀ e, e ∉ s.snd := by rw [h.empty ho]; exact fun _ => List.not_mem_nil
  refine ⟨⟨fun _ => hn ▸ hme ▸ Nat.lt_succ_self _, fun _ => rfl⟩, ?_, by simp only [GcReg.sentTo, hst]; exact h.msgs,
    fun _ _ _ _ _ hm => absurd hm (hnil _), fun _ _ _ hm => absurd hm (hnil _), nofun, fun _ _ _ _ _ hm => absurd hm (hnil _)⟩
  intro q hq; cases hq
  exact (List.eq_nil_iff_forall_not_mem.mpr hnil) ▸ rfl

theorem link_step (me cap : Nat) (cfg : GcReg.Cfg) (s s' : St) (a : Action) (hreach : Reach (GcReg.sys cfg) s.reg)
    (h : LinkOk me s) (hact : act me cap s a = some s') : LinkOk me s' := by
  cases step_of_act hact with
  | sub hq ha hs => exact link_frame h (by rw [hq]; exact idle_of_sub ha hs) Iff.rfl rfl rfl rfl
  | reg hr he =>
    cases he with
    | senderDone hdone => exact link_senderDone h hdone
    | other hreg hidle => exact link_frame h hidle (by rw [hreg.1]) hreg.2.1 hreg.2.2 rfl
    | send hth hm =>
      cases hm with
      | pubSendWait | pubSendNext => exact link_send h (GcReg.reach_aux cfg s.reg hreach) rfl rfl rfl
    | create hth hme ho => exact link_create h hme ho rfl rfl
    | tlock hth hne =>
      -- not `me`'s id: had it been handed out before, it would be below `nextSid`
      refine link_frame h .same ?_ rfl rfl rfl
      have : s.reg.nextSid = me → me < s.reg.nextSid := fun hme => h.created.mp (Option.isSome_iff_ne_none.mpr (hne hme))
      show me < s.reg.nextSid + 1 ↔ _
      omega
    | register hth hm =>
      cases hm with
      | subRegister => exact link_register h ((GcReg.reach_rs cfg s.reg hreach).2.2.1 _ _ _ hth).1 rfl rfl rfl

end Wm.GcProd
