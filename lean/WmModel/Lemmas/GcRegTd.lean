import WmModel.Lemmas.GcRegInv
namespace Wm.GcReg

variable {s s' : St} {a : Action} {i : Nat} {new : Th} {l : List Th} {cancelled cancelled' : List Nat} {closing closing' : Bool}

def TdOn (l : List Th) (cancelled : List Nat) (closingSig : Bool) : Prop :=
  ∀ (i t sid : Nat) (pc : TPc), l[i]? = some (Th.td t sid pc) → pc ≠ TPc.idle → sid ∈ cancelled ∨ closingSig = true

/-- an unsubscribe goroutine leaves its wait only when its own subscription was cancelled or the Pub/Sub is closing -/
def TdOk (s : St) : Prop := TdOn s.ths s.cancelled s.closingSig

theorem td_init (cfg : Cfg) : TdOk (init cfg) := by simp [TdOk, TdOn, init]

theorem td_mono (h : TdOn l cancelled closing) (hc : ∀ x, x ∈ cancelled → x ∈ cancelled')
    (hcs : closing = true → closing' = true) : TdOn l cancelled' closing' :=
  fun j t sid pc hj hpc => (h j t sid pc hj hpc).imp (hc _) hcs

theorem td_set (h : TdOn l cancelled closing)
    (hnew : ∀ t sid pc, new = Th.td t sid pc → pc ≠ TPc.idle → sid ∈ cancelled ∨ closing = true) :
    TdOn (l.set i new) cancelled closing := by
  intro j t sid pc hj hpc
  rcases get_set_cases _ _ _ _ _ hj with ⟨_, hth⟩ | ⟨_, hj'⟩
  · exact hnew t sid pc hth.symm hpc
  · exact h j t sid pc hj' hpc

theorem td_set_other (h : TdOn l cancelled closing) (hn : isTd new = false) : TdOn (l.set i new) cancelled closing :=
  td_set h (fun _ _ _ hx => by subst hx; cases hn)

theorem td_append (h : TdOn l cancelled closing) (hnew : ∀ t sid pc, new = Th.td t sid pc → pc = TPc.idle) :
    TdOn (l ++ [new]) cancelled closing := by
  intro j t sid pc hj hpc
  rcases get_append_cases _ _ _ _ hj with ⟨_, hj'⟩ | ⟨_, hth⟩
  · exact h j t sid pc hj' hpc
  · exact absurd (hnew t sid pc hth.symm) hpc

theorem td_step (h : TdOk s) (hs : Step s a s') : TdOk s' := by
  cases hs with
  | newPub | newPubNested | newSub | newClose => exact td_append h nofun
  | cancel => exact td_mono h (fun _ hx => List.mem_cons_of_mem _ hx) id
  | senderDone | panic => exact h
  | subTlock i t hth => exact td_append (td_set_other h rfl) (fun _ _ _ hx => (Th.td.inj hx).2.2.symm)
  | thread hth hm =>
    cases hm with
    | tdIdle hr => exact td_set h (fun _ _ _ hx _ => (Th.td.inj hx).2.1 ▸ hr)
    | tdSubClosed | tdAnnounce | tdDrain | tdTlock | tdRemove =>
      exact td_set h (fun _ _ _ hx _ => (Th.td.inj hx).2.1 ▸ h _ _ _ _ hth nofun)
    | closeStart => exact td_set_other (td_mono h (fun _ hx => hx) (fun _ => rfl)) rfl
    | _ => exact td_set_other h rfl

end Wm.GcReg
