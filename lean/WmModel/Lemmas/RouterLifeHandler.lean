/-
  Per-handler lifecycle invariant of RouterLife: the order of RunHandlers' assignments, Subscribe counted once,
  publisher closed exactly once by the loop, Stopped() closed exactly when the handler's goroutine finished.
-/
import WmModel.Lemmas.RouterLifeCtl
namespace Wm.RouterLife
open Wm.Lts

/-- facts about one handler that every step keeps (`fx.d7` guards the repaired order) -/
structure HOk (fx : Fix) (h : Handler) : Prop where
  l1 : h.startedCh = true → h.started = true
  l2 : fx.d7 = true → h.startedCh = true → h.stopSet = true
  l3 : h.subCalls = if h.pump = .off then 0 else 1
  l4 : h.loop ≠ .off → h.started = true ∧ h.startedCh = true ∧ h.stopSet = true ∧ h.pump ≠ .off
  l5 : (h.stoppedCh = true ↔ h.loop = .done) ∧ (h.removed = true ↔ h.loop = .done)
  l6 : h.pubCloseCalls = if h.loop = .wgDone ∨ h.loop = .delete ∨ h.loop = .done then 1 else 0
  l7 : (h.loop = .pubClose ∨ h.loop = .wgDone ∨ h.loop = .delete ∨ h.loop = .done) → h.pump = .done
  l8 : h.pump = .done → h.innerClosed = true
  l9 : (h.hc = .off ↔ h.loop = .off) ∧ ((h.hc = .off ∨ h.hc = .sel) → h.subCloseCalls = 0) ∧ h.subCloseCalls ≤ 1
  l10 : h.started = true → h.pump ≠ .off
  l11 : h.started = true → h.startedCh = true

/-- the handler RunHandlers is working on (sub-step `st`) -/
structure CurOk (fx : Fix) (st : Nat) (h : Handler) : Prop where
  c0 : st ≤ 2
  c1 : h.pump ≠ .off
  c2 : h.loop = .off
  c3 : 1 ≤ st → if fx.d7 = true then h.stopSet = true else h.started = true ∧ h.startedCh = true
  c4 : st = 2 → h.started = true ∧ h.startedCh = true ∧ h.stopSet = true

/-- the handler a RunHandlers call holding `handlersLock` is working on, and its sub-step -/
def HL.cur : HL → Option (Nat × Nat)
  | .rh _ c => c
  | _ => none

structure LifeOk (fx : Fix) (s : St) : Prop where
  all : ∀ h ∈ s.hs, HOk fx h
  cur : ∀ i st, s.hl.cur = some (i, st) → ∃ h, s.hs[i]? = some h ∧ CurOk fx st h
  sub : ∀ (i : Nat) (h : Handler), s.hs[i]? = some h → h.pump ≠ .off →
          h.started = true ∨ ∃ st, s.hl.cur = some (i, st)

variable {fx : Fix} {h : Handler}

/-! ### `HOk` under the handler updates of the model -/

theorem hok_new (fx : Fix) (b : Bool) : HOk fx (newHandler b) := by
  constructor <;> simp [newHandler]

theorem hok_ctxDone (hok : HOk fx h) : HOk fx { h with ctxDone := true } := { hok with }

theorem hok_innerClosed (hok : HOk fx h) : HOk fx { h with innerClosed := true } := { hok with l8 := fun _ => rfl }

theorem HOk.loop_off (hok : HOk fx h) (hs : h.started = false) : h.loop = .off :=
  Decidable.byContradiction fun hl => by have := (hok.l4 hl).1; rw [hs] at this; cases this

/-- Stop() after Started() finds the flag and `stopFn` set (fix D7) -/
theorem HOk.stoppable (hok : HOk fx h) (hfx : fx.d7 = true) (hc : h.startedCh = true) :
    h.started = true ∧ h.stopSet = true :=
  ⟨hok.l1 hc, hok.l2 hfx hc⟩

theorem HOk.subscribed (hok : HOk fx h) (hs : h.started = true) : h.subCalls = 1 := by
  rw [hok.l3, if_neg (hok.l10 hs)]

/-- Subscribe is called for a handler that has no pump yet, hence no loop -/
theorem hok_sub (hok : HOk fx h) (v : Bool) (hp : h.pump = .off) (hs : h.started = false) :
    HOk fx { h with subCalls := h.subCalls + 1, pump := .idle, viaRun := v } :=
  have hl := hok.loop_off hs
  { hok with
    l3 := by have := hok.l3; rw [if_pos hp] at this; rw [this]; rfl
    l4 := fun hl' => absurd hl hl'
    l7 := by rw [hl]; nofun
    l8 := nofun
    l10 := fun _ => nofun }

theorem hok_markStop (hok : HOk fx h) : HOk fx (markStop h) :=
  { hok with
    l2 := fun _ _ => rfl
    l4 := fun hl => let ⟨a, b, _, d⟩ := hok.l4 hl; ⟨a, b, rfl, d⟩ }

/-- `close(startedCh)`: in the repaired order `stopFn` is assigned already -/
theorem hok_markStarted (hok : HOk fx h) (h2 : fx.d7 = true → h.stopSet = true) (hp : h.pump ≠ .off) :
    HOk fx (markStarted h) :=
  { hok with
    l1 := fun _ => rfl
    l2 := fun d _ => h2 d
    l4 := fun hl => let ⟨_, _, c, d⟩ := hok.l4 hl; ⟨rfl, rfl, c, d⟩
    l10 := fun _ => hp
    l11 := fun _ => rfl }

theorem hok_spawn (hok : HOk fx h) (hl : h.loop = .off) (hs : h.started = true ∧ h.startedCh = true ∧ h.stopSet = true)
    (hp : h.pump ≠ .off) : HOk fx { h with loop := .idle, hc := .sel } :=
  { hok with
    l4 := fun _ => ⟨hs.1, hs.2.1, hs.2.2, hp⟩
    l5 := by simpa [hl] using hok.l5
    l6 := by simpa [hl] using hok.l6
    l7 := nofun
    l9 := ⟨⟨nofun, nofun⟩, fun _ => hok.l9.2.1 (.inl (hok.l9.1.mpr hl)), hok.l9.2.2⟩ }

/-- the pump moves between `idle`, `hold m` and (once the inner channel is closed) `done` -/
theorem hok_pump {p0 : Pump} (hok : HOk fx h) (p : Pump) (hp : h.pump = p0) (h1 : p0 ≠ .off) (h2 : p0 ≠ .done)
    (h3 : p ≠ .off) (h4 : p = .done → h.innerClosed = true) : HOk fx { h with pump := p } :=
  { hok with
    l3 := by have := hok.l3; rw [hp, if_neg h1] at this; rw [this]; exact (if_neg h3).symm
    l4 := fun hl => let ⟨a, b, c, _⟩ := hok.l4 hl; ⟨a, b, c, h3⟩
    l7 := fun hl => absurd (hp ▸ hok.l7 hl) h2
    l8 := h4
    l10 := fun _ => h3 }

/-- the loop moves from `l0` to `l`: spawned and not done before and after, on the same side of the publisher's
    Close -/
theorem hok_loop {l0 : Loop} (hok : HOk fx h) (l : Loop) (hl : h.loop = l0) (h0 : l0 ≠ .off) (h1 : l ≠ .off)
    (h2 : l0 ≠ .done) (h3 : l ≠ .done)
    (h4 : (l = .wgDone ∨ l = .delete ∨ l = .done) ↔ (l0 = .wgDone ∨ l0 = .delete ∨ l0 = .done))
    (h5 : (l = .pubClose ∨ l = .wgDone ∨ l = .delete ∨ l = .done) → h.pump = .done) : HOk fx { h with loop := l } :=
  have hd : h.loop = .done ↔ l = .done := ⟨fun e => absurd (hl ▸ e) h2, fun e => absurd e h3⟩
  { hok with
    l4 := fun _ => hok.l4 (hl ▸ h0)
    l5 := ⟨hok.l5.1.trans hd, hok.l5.2.trans hd⟩
    l6 := by rw [hok.l6, hl]; simp only [h4]
    l7 := h5
    l9 := ⟨⟨fun e => absurd (hl ▸ hok.l9.1.mp e) h0, fun e => absurd e h1⟩, hok.l9.2⟩ }

theorem hok_pubClose (hok : HOk fx h) (hl : h.loop = .pubClose) :
    HOk fx { h with loop := .wgDone, pubCloseCalls := h.pubCloseCalls + 1 } :=
  { hok with
    l4 := fun _ => hok.l4 (by rw [hl]; nofun)
    l5 := by simpa [hl] using hok.l5
    l6 := by simpa [hl] using hok.l6
    l7 := fun _ => hok.l7 (.inl hl)
    l9 := by simpa [hl] using hok.l9 }

theorem hok_loopDelete (hok : HOk fx h) (hl : h.loop = .delete) :
    HOk fx { h with loop := .done, removed := true, stoppedCh := true, ctxDone := true } :=
  { hok with
    l4 := fun _ => hok.l4 (by rw [hl]; nofun)
    l5 := ⟨⟨fun _ => rfl, fun _ => rfl⟩, fun _ => rfl, fun _ => rfl⟩
    l6 := by simpa [hl] using hok.l6
    l7 := fun _ => hok.l7 (.inr (.inr (.inl hl)))
    l9 := by simpa [hl] using hok.l9 }

/-- handleClose moves on past its select -/
theorem hok_hc {c0 : HC} (hok : HOk fx h) (c : HC) (hc : h.hc = c0) (h0 : c0 ≠ .off) (h1 : c ≠ .off) (h2 : c ≠ .sel) :
    HOk fx { h with hc := c } :=
  { hok with
    l9 := ⟨⟨fun e => absurd e h1, fun e => absurd (hc ▸ hok.l9.1.mpr e) h0⟩, fun e => e.elim (absurd · h1) (absurd · h2),
      hok.l9.2.2⟩ }

theorem hok_hcCall (hok : HOk fx h) (hc : h.hc = .sel) :
    HOk fx { h with hc := .innerCall, subCloseCalls := h.subCloseCalls + 1 } :=
  { hok with
    l9 := ⟨⟨nofun, fun e => by have := hok.l9.1.mpr e; rw [hc] at this; cases this⟩, fun e => e.elim nofun nofun,
      by rw [hok.l9.2.1 (.inr hc)]; exact Nat.le_refl 1⟩ }

theorem hok_hcInnerRet (hok : HOk fx h) (hc : h.hc = .innerCall) :
    HOk fx { h with hc := .waitPump, innerClosed := true, decClosing := true } :=
  { hok with l8 := fun _ => rfl, l9 := (hok_hc hok .waitPump hc nofun nofun nofun).l9 }

theorem hok_hcStop (hok : HOk fx h) (hc : h.hc = .stop) : HOk fx { h with hc := .done, ctxDone := true } :=
  { hok with l9 := (hok_hc hok .done hc nofun nofun nofun).l9 }

/-! ### the frame of `LifeOk` -/

/-- `h'` differs from `h` in nothing that RunHandlers assigns or waits for: the three start-up assignments are as they
    were, pump and loop exist or not as before.  Every step but RunHandlers' own leaves a handler so; most of them by
    computation. -/
structure Same (h h' : Handler) : Prop where
  started : h'.started = h.started := by rfl
  startedCh : h'.startedCh = h.startedCh := by rfl
  stopSet : h'.stopSet = h.stopSet := by rfl
  pump : h'.pump = .off ↔ h.pump = .off := by exact Iff.rfl
  loop : h.loop = .off → h'.loop = .off := by exact id

theorem curok_same {st : Nat} {h' : Handler} (c : CurOk fx st h) (e : Same h h') : CurOk fx st h' :=
  { c0 := c.c0
    c1 := fun hp => c.c1 (e.pump.mp hp)
    c2 := e.loop c.c2
    c3 := by rw [e.started, e.startedCh, e.stopSet]; exact c.c3
    c4 := by rw [e.started, e.startedCh, e.stopSet]; exact c.c4 }

theorem same_pump {p0 : Pump} (p : Pump) (hp : h.pump = p0) (h1 : p0 ≠ .off) (h2 : p ≠ .off) :
    Same h { h with pump := p } :=
  { pump := ⟨fun e => absurd e h2, fun e => absurd (hp ▸ e) h1⟩ }

/-- the first of RunHandlers' two assignments: `stopFn`/`stopped` in the repaired order -/
theorem life_step0 (hok : HOk fx h) (c : CurOk fx 0 h) :
    HOk fx ((if fx.d7 then markStop else markStarted) h) ∧ CurOk fx 1 ((if fx.d7 then markStop else markStarted) h) := by
  cases hd : fx.d7 with
  | true => exact ⟨hok_markStop hok, ⟨by decide, c.c1, c.c2, fun _ => by rw [hd]; exact rfl, nofun⟩⟩
  | false =>
    exact ⟨hok_markStarted hok (fun d => by rw [hd] at d; cases d) c.c1,
      ⟨by decide, c.c1, c.c2, fun _ => by rw [hd]; exact ⟨rfl, rfl⟩, nofun⟩⟩

theorem life_step1 (hok : HOk fx h) (c : CurOk fx 1 h) :
    HOk fx ((if fx.d7 then markStarted else markStop) h) ∧ CurOk fx 2 ((if fx.d7 then markStarted else markStop) h) := by
  have c3 := c.c3 (Nat.le_refl 1)
  cases hd : fx.d7 with
  | true =>
    rw [hd] at c3
    exact ⟨hok_markStarted hok (fun _ => c3) c.c1,
      ⟨by decide, c.c1, c.c2, fun _ => by rw [hd]; exact c3, fun _ => ⟨rfl, rfl, c3⟩⟩⟩
  | false =>
    rw [hd] at c3
    exact ⟨hok_markStop hok, ⟨by decide, c.c1, c.c2, fun _ => by rw [hd]; exact c3, fun _ => ⟨c3.1, c3.2, rfl⟩⟩⟩

variable {s s' : St} {i : Nat} {g : Handler → Handler}

theorem life_init (fx : Fix) : LifeOk fx init := by
  constructor <;> simp [init, HL.cur]

theorem life_same (h : LifeOk fx s) (e1 : s'.hs = s.hs := by rfl) (e2 : s'.hl.cur = s.hl.cur := by rfl) : LifeOk fx s' :=
  ⟨by rw [e1]; exact h.all, by rw [e1, e2]; exact h.cur, by rw [e1, e2]; exact h.sub⟩

/-- RunHandlers is between two handlers: one that is not started has not been subscribed -/
theorem LifeOk.pump_off {x : Handler} (h : LifeOk fx s) (hc : s.hl.cur = none) (hx : s.hs[i]? = some x)
    (hst : x.started = false) : x.pump = .off :=
  Decidable.byContradiction fun hp => by
    rcases h.sub _ _ hx hp with h1 | ⟨st, h1⟩
    · rw [hst] at h1; cases h1
    · rw [hc] at h1; cases h1

/-- RunHandlers returns when every handler is started or removed: a removed one had been started -/
theorem LifeOk.all_started (h : LifeOk fx s) (hall : s.hs.all (fun h => h.started || h.removed) = true) :
    ∀ y ∈ s.hs, y.started = true := fun y hy =>
  have hok := h.all y hy
  (Bool.or_eq_true _ _ |>.mp (List.all_eq_true.mp hall y hy)).elim id fun hr =>
    (hok.l4 (by rw [hok.l5.2.mp hr]; nofun)).1

/-- one handler changes; it is not RunHandlers that changes it -/
theorem life_updH {x : Handler} (h : LifeOk fx s) (hx : s.hs[i]? = some x) (e1 : s'.hs = s.hs.modify i g)
    (e2 : s'.hl.cur = s.hl.cur) (hok : HOk fx x → HOk fx (g x)) (hsame : Same x (g x)) : LifeOk fx s' := by
  refine ⟨?_, ?_, ?_⟩
  · rw [e1]; exact forall_mem_modify s.hs i g (HOk fx) h.all (at_get hx hok)
  · rw [e1, e2]; intro j st hc
    obtain ⟨y, hy, c⟩ := h.cur j st hc
    by_cases hij : i = j
    · subst hij; rw [hx] at hy; cases hy
      exact ⟨g x, getElem?_modify_self _ _ _ _ hx, curok_same c hsame⟩
    · exact ⟨y, by rw [getElem?_modify_ne _ _ _ _ hij]; exact hy, c⟩
  · rw [e1, e2]; intro j y hy hp
    by_cases hij : i = j
    · subst hij; rw [getElem?_modify_self _ _ _ _ hx] at hy; cases hy
      rw [hsame.started]; exact h.sub i x hx fun hpo => hp (hsame.pump.mpr hpo)
    · rw [getElem?_modify_ne _ _ _ _ hij] at hy; exact h.sub j y hy hp

/-- AddHandler: the new handler has neither pump nor loop -/
theorem life_append (h : LifeOk fx s) (b : Bool) (e1 : s'.hs = s.hs ++ [newHandler b] := by rfl)
    (e2 : s'.hl.cur = s.hl.cur := by rfl) : LifeOk fx s' := by
  refine ⟨?_, ?_, ?_⟩
  · rw [e1]; intro x hx
    rcases List.mem_append.mp hx with hx | hx
    · exact h.all x hx
    · cases List.mem_singleton.mp hx; exact hok_new fx b
  · rw [e1, e2]; intro j st hc
    obtain ⟨x, hx, c⟩ := h.cur j st hc
    exact ⟨x, append_get_of_get _ _ _ _ hx, c⟩
  · rw [e1, e2]; intro j y hy hp
    rcases get_append_cases _ _ _ _ hy with ⟨_, hy⟩ | ⟨_, rfl⟩
    · exact h.sub j y hy hp
    · exact absurd rfl hp

/-- RunHandlers' own step on the handler `i` it takes up (`c = none`), is working on, or lets go (`o = none`); `o` is the
    new sub-step -/
theorem life_rh {x : Handler} {v : Bool} {c : Option (Nat × Nat)} (h : LifeOk fx s) (hx : s.hs[i]? = some x)
    (e1 : s'.hs = s.hs.modify i g) (hhl : s.hl = .rh v c) (hc : c = none ∨ ∃ st, c = some (i, st)) (o : Option Nat)
    (e2 : s'.hl.cur = o.map (Prod.mk i)) (hok : HOk fx (g x))
    (ho : match o with | some st => CurOk fx st (g x) | none => (g x).started = true) : LifeOk fx s' := by
  have hgx : s'.hs[i]? = some (g x) := by rw [e1]; exact getElem?_modify_self _ _ _ _ hx
  refine ⟨?_, ?_, ?_⟩
  · rw [e1]; exact forall_mem_modify s.hs i g (HOk fx) h.all (at_get hx fun _ => hok)
  · rw [e2]; intro j st hj
    cases o with
    | none => cases hj
    | some st' => cases hj; exact ⟨g x, hgx, ho⟩
  · intro j y hy hp
    by_cases hij : i = j
    · subst hij; rw [hgx] at hy; cases hy
      cases o with
      | none => exact Or.inl ho
      | some st => exact Or.inr ⟨st, e2⟩
    · rw [e1, getElem?_modify_ne _ _ _ _ hij] at hy
      rcases h.sub j y hy hp with h1 | ⟨st, h1⟩
      · exact Or.inl h1
      · rw [hhl] at h1
        rcases hc with rfl | ⟨_, rfl⟩ <;> cases h1
        exact absurd rfl hij

theorem life_step {a : Action} (hctl : CtlOk s) (h : LifeOk fx s) (hs : Step fx s a s') : LifeOk fx s' := by
  have hok {i x} (hx : s.hs[i]? = some x) : HOk fx x := h.all x (List.mem_of_getElem? hx)
  cases hs with
  | addHandlerTok | addHandlerSel | addHandlerDrop => exact life_append h _
  -- `handlersLock` changes hands while nobody is in the middle of a handler
  | runRh _ hf | rhCall _ hf | closeHL _ hf => exact life_same h (e2 := by rw [hf]; rfl)
  | rhSubFail hhl | rhEnd hhl => exact life_same h (e2 := by rw [hhl]; rfl)
  | closeDone hk | closeTimeout hk => exact life_same h (e2 := by rw [(hctl.k1 _ hk).2.2.1]; rfl)
  -- RunHandlers: Subscribe, the two assignments, `go h.run`
  | rhSub hhl hx hst =>
    exact life_rh h hx rfl hhl (.inl rfl) (some 0) rfl (hok_sub (hok hx) _ (h.pump_off (by rw [hhl]; rfl) hx hst) hst)
      ⟨Nat.zero_le 2, nofun, (hok hx).loop_off hst, nofun, nofun⟩
  | rhStep0 hhl =>
    obtain ⟨x, hx, c⟩ := h.cur _ 0 (by rw [hhl]; rfl)
    obtain ⟨h1, h2⟩ := life_step0 (hok hx) c
    exact life_rh h hx rfl hhl (.inr ⟨0, rfl⟩) (some 1) rfl h1 h2
  | rhStep1 hhl =>
    obtain ⟨x, hx, c⟩ := h.cur _ 1 (by rw [hhl]; rfl)
    obtain ⟨h1, h2⟩ := life_step1 (hok hx) c
    exact life_rh h hx rfl hhl (.inr ⟨1, rfl⟩) (some 2) rfl h1 h2
  | rhSpawn hhl =>
    obtain ⟨x, hx, c⟩ := h.cur _ 2 (by rw [hhl]; rfl)
    exact life_rh h hx rfl hhl (.inr ⟨2, rfl⟩) none rfl (hok_spawn (hok hx) c.c2 (c.c4 rfl) c.c1) (c.c4 rfl).1
  -- pump and loop
  | emit hx hp | pumpDrop hx hp =>
    exact life_updH h hx rfl rfl (hok_pump · _ hp nofun nofun nofun nofun) (same_pump _ hp nofun nofun)
  | pumpEnd hx hp hic =>
    exact life_updH h hx rfl rfl (hok_pump · _ hp nofun nofun nofun fun _ => hic) (same_pump _ hp nofun nofun)
  | pumpOut hx hp hl =>
    exact life_updH h hx rfl rfl
      (fun hok => hok_loop (hok_pump hok .idle hp nofun nofun nofun nofun) _ hl nofun nofun nofun nofun (by simp) nofun)
      { pump := (same_pump .idle hp nofun nofun).pump, loop := fun e => by rw [hl] at e; cases e }
  | innerCtx hx => exact life_updH h hx rfl rfl hok_innerClosed {}
  | dispatch hx hl =>
    exact life_updH h hx rfl rfl (hok_loop · _ hl nofun nofun nofun nofun (by simp) nofun)
      { loop := fun e => by rw [hl] at e; cases e }
  | loopEnd hx hl hp =>
    exact life_updH h hx rfl rfl (hok_loop · _ hl nofun nofun nofun nofun (by simp) fun _ => hp)
      { loop := fun e => by rw [hl] at e; cases e }
  | pubClose hx hl => exact life_updH h hx rfl rfl (hok_pubClose · hl) { loop := fun e => by rw [hl] at e; cases e }
  | wgDone hx hl =>
    exact life_updH h hx rfl rfl
      (fun hok => hok_loop hok _ hl nofun nofun nofun nofun (by simp) fun _ => hok.l7 (.inr (.inl hl)))
      { loop := fun e => by rw [hl] at e; cases e }
  | loopDelete hx hl => exact life_updH h hx rfl rfl (hok_loopDelete · hl) { loop := fun e => by rw [hl] at e; cases e }
  -- handleClose, Stop
  | hcClose hx hc | hcCtxClose hx hc => exact life_updH h hx rfl rfl (hok_hcCall · hc) {}
  | hcCtxStop hx hc | hcCloseFail hx hc | hcPumpWaited hx hc =>
    exact life_updH h hx rfl rfl (hok_hc · .stop hc nofun nofun nofun) {}
  | hcInnerRet hx hc => exact life_updH h hx rfl rfl (hok_hcInnerRet · hc) {}
  | hcStop hx hc => exact life_updH h hx rfl rfl (hok_hcStop · hc) {}
  | stop hx => exact life_updH h hx rfl rfl hok_ctxDone {}
  -- the other steps leave the handlers and `handlersLock` alone
  | _ => exact life_same h

theorem reach_life (fx : Fix) : ∀ s, Reach (sys fx) s → LifeOk fx s :=
  inv_of_step' (sys fx) (LifeOk fx) (life_init fx) fun s _ _ hr h ha => life_step (reach_ctl fx s hr) h (step_of_act ha)

end Wm.RouterLife
