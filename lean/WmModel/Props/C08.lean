/-
  C08 – Router routes per handler: right function, right topic, unmodified outputs.
  Property theorems.  Model: `WmModel/Route.lean`.  All statements are for every configuration (any number of
  handlers, any sharing of subscriber / publisher objects and topics, any strings), every order in which
  `RunHandlers` walks the handler map, every script of arriving messages and every output shape.
  (The routing statements are close to the model's definitions – the weight of C08 is on the correspondence check;
  what is genuinely proved is the context algebra and the independence of the map order.)
-/
import WmModel.Route
import WmModel.RouteOld
namespace Wm.Route

theorem get_withValue_same (c : Ctx) (k : Key) (v : String) : (withValue c k v).get k = v := by
  simp [withValue, Ctx.get]

theorem get_withValue_other (c : Ctx) (k k' : Key) (v : String) (h : k ≠ k') :
    (withValue c k v).get k' = c.get k' := by
  simp [withValue, Ctx.get, h]

/-- the handler's own five values -/
def own (h : HCfg) : Ctx5 := ⟨h.name, h.pubName, h.subName, h.subTopic, h.pubTopic⟩

/-- **ctx_values**: for ANY incoming context – fresh, or still carrying the five values of an upstream handler –
    after `addHandlerContext` the five accessors report this handler's name, publisher type name, subscriber type
    name, subscribe topic and publish topic; an empty field is reported as `""`, never as a stale value. -/
theorem ctx_values (h : HCfg) (c : Ctx) : ctx5 (addHandlerContext h c) = own h := by
  simp [ctx5, addHandlerContext, own, get_withValue_same, get_withValue_other]

/-- per accessor -/
theorem ctx_get (h : HCfg) (c : Ctx) :
    (addHandlerContext h c).get .handlerName = h.name ∧ (addHandlerContext h c).get .publisherName = h.pubName ∧
    (addHandlerContext h c).get .subscriberName = h.subName ∧ (addHandlerContext h c).get .subscribeTopic = h.subTopic ∧
    (addHandlerContext h c).get .publishTopic = h.pubTopic := by
  simpa only [ctx5, own, Ctx5.mk.injEq] using ctx_values h c

/-- applying the handler context twice (consumed message returned as output; the same object twice in the slice)
    reports the same five values as applying it once -/
theorem ctx5_addHandlerContext_idem (h : HCfg) (c : Ctx) :
    ctx5 (addHandlerContext h (addHandlerContext h c)) = ctx5 (addHandlerContext h c) := by
  rw [ctx_values, ctx_values]

example : ctx5 (addHandlerContext ⟨"h", 1, "in", "kafka.Subscriber", some 2, "", "kafka.Publisher", 0, false, false⟩
      [(.publishTopic, "upstream-topic"), (.handlerName, "upstream")]) =
    ⟨"h", "kafka.Publisher", "kafka.Subscriber", "in", ""⟩ := rfl

/-! ### the defect repaired by 5846d09, kept as a witness (`WmModel/RouteOld.lean`) -/

/-- **witness**: before the fix a no-publisher handler (publish topic `""`) that received a message whose context
    still carried an upstream handler's publish topic reported THAT topic, not its own empty one – the unguarded
    `ctx_values` was false for that code.  Same input as in corpus/C08 and the harness's stale cases. -/
theorem Old.stale_context_shows_through :
    let h : HCfg := ⟨"b", 1, "in", "S", none, "", "message.disabledPublisher", 0, true, false⟩
    let d : Delivery := ⟨1, "in", 1, .outs [], [(.publishTopic, "upstream-topic")], .live⟩
    h.pubTopic = "" ∧ (Old.inCtx h d).pubTopic = "upstream-topic" ∧ Old.inCtx h d ≠ own h ∧
      (handleOne h d).inCtx = own h :=
  ⟨rfl, rfl, fun e => absurd (congrArg Ctx5.pubTopic e) (by decide), rfl⟩

/-- the old code agreed with the current one exactly on fields that are non-empty (so the defect needs an empty field) -/
theorem Old.agrees_on_nonempty (h : HCfg) (c : Ctx)
    (h1 : h.name ≠ "") (h2 : h.pubName ≠ "") (h3 : h.subName ≠ "") (h4 : h.subTopic ≠ "") (h5 : h.pubTopic ≠ "") :
    ctx5 (Old.addHandlerContext h c) = own h := by
  simp [ctx5, Old.addHandlerContext, Old.setIf, own, Ctx.get, h1, h2, h3, h4, h5]

/-- **application values never shadow the router's**: whatever the application stores in the message context afterwards
    (in a subscriber decorator, a middleware, the handler's helpers) – also under key texts equal to the router's, like
    "handler_name" – the accessors keep returning what the router put there -/
theorem app_values_never_shadow (c : MixCtx) (app : List (String × String)) (k : Key) :
    MixCtx.get (app.map (fun (n, v) => (AnyKey.app n, v)) ++ c) k = MixCtx.get c k := by
  induction app with
  | nil => rfl
  | cons a rest ih => simp [MixCtx.get, ih]

example : MixCtx.get [(.app "handler_name", "mine"), (.router .handlerName, "h"), (.app "publish_topic", "x")] .handlerName = "h" :=
  rfl

/-- `handleMessage` calls the handler's own function on that message, under the handler's own five values, however
    it ends -/
theorem handleOne_frame (h : HCfg) (d : Delivery) :
    (handleOne h d).mid = d.mid ∧ (handleOne h d).fn = h.name ∧ (handleOne h d).inCtx = own h := by
  unfold handleOne
  simp only [ctx_values]
  rcases produced h d.shape with _ | _ | _ <;> cases h.pub <;> exact ⟨rfl, rfl, rfl⟩

/-- The `Publish` calls of one message in normal form: one, when the handler has a publisher and the chain returned
    something – to the handler's own publisher and topic, the returned objects in order, each with the handler's five
    values and still on its own base context.  What follows about them is read off from this. -/
theorem handleOne_calls (h : HCfg) (d : Delivery) :
    (handleOne h d).calls = match h.pub, produced h d.shape with
      | some p, some (r :: rs) => [⟨p, h.pubTopic, (r :: rs).map (·, own h), (r :: rs).map some⟩]
      | _, _ => [] := by
  have hv : ∀ x, ctx5 (outCtx h (addHandlerContext h d.ctx) x) = own h := fun x => by
    cases x <;> exact ctx_values h _
  have ho : ∀ x, (addHandlerContextM h (baseCtx ⟨some .consumed, addHandlerContext h d.ctx⟩ x)).owner = some x :=
    fun x => by cases x <;> rfl
  unfold handleOne
  simp only [hv, contextualise, List.map_map, Function.comp_def, ho]
  rcases produced h d.shape with _ | _ | _ <;> cases h.pub <;> rfl

/-- **ctx_in_handler**: inside the handler function the accessors report the handler's own values, whatever context
    the message arrived with -/
theorem ctx_in_handler (h : HCfg) (d : Delivery) : (handleOne h d).inCtx = own h := (handleOne_frame h d).2.2

/-- the function invoked is the handler's own, on that message -/
theorem handleOne_fn (h : HCfg) (d : Delivery) : (handleOne h d).fn = h.name ∧ (handleOne h d).mid = d.mid :=
  ⟨(handleOne_frame h d).2.1, (handleOne_frame h d).1⟩

/-- **ctx_on_produced**: on every produced message, when `Publish` gets it, the accessors report the handler's own
    values – fresh objects, middleware objects and the consumed message returned as an output alike, whatever
    context the consumed message arrived with -/
theorem ctx_on_produced (h : HCfg) (d : Delivery) :
    ∀ call ∈ (handleOne h d).calls, ∀ it ∈ call.items, it.2 = own h := by
  rw [handleOne_calls]
  split
  · refine List.forall_mem_singleton.mpr fun it hit => ?_
    obtain ⟨_, _, rfl⟩ := List.mem_map.mp hit
    rfl
  · exact List.forall_mem_nil _

/-- **publishes_only_own**: at most one `Publish` per consumed message; it goes to the handler's own publisher
    object on the handler's own publish topic and carries exactly the objects the chain returned, in that order
    (same objects – `Ref` is object identity – with repetitions kept) -/
theorem publishes_only_own (h : HCfg) (d : Delivery) :
    (handleOne h d).calls.length ≤ 1 ∧
    ∀ call ∈ (handleOne h d).calls,
      h.pub = some call.pub ∧ call.topic = h.pubTopic ∧ produced h d.shape = some (call.items.map (·.1)) := by
  rw [handleOne_calls]
  split
  next p r rs hp ho =>
    refine ⟨Nat.le_refl 1, List.forall_mem_singleton.mpr ⟨hp, rfl, ?_⟩⟩
    rw [ho, List.map_map]
    exact congrArg some (List.map_id' _).symm
  · exact ⟨Nat.zero_le 1, List.forall_mem_nil _⟩

/-- **a done context changes nothing**: whether the consumed message's context is live, already cancelled, cancelled
    during the call or past its deadline, a function that returns the same thing gets the same treatment – outputs
    handed to the publisher as returned, message acked (C08 never lets the router drop returned messages) -/
theorem done_context_irrelevant (h : HCfg) (d : Delivery) (m : CtxDone) :
    handleOne h { d with done := m } = handleOne h d := rfl

/-- in particular: function returned outputs without error, handler has a publisher ⇒ published and acked, for every
    state of the message's context -/
theorem returned_outputs_published (h : HCfg) (d : Delivery) (p : Nat) (r : Ref) (rs : List Ref)
    (hp : h.pub = some p) (ho : produced h d.shape = some (r :: rs)) :
    (handleOne h d).settle = .ack ∧
    (handleOne h d).calls.map (fun c => (c.pub, c.topic, c.items.map (·.1))) = [(p, h.pubTopic, r :: rs)] := by
  unfold handleOne
  simp [ho, hp, Function.comp_def]

/-- **every produced message keeps its own context**: when `Publish` gets the slice, the context of each element is
    still (a child of) the context THAT object had when the chain returned it – the consumed message its own, every
    other object the one it was created with – never another element's (so values, deadlines and cancellation the
    function attached to one output stay with that output) -/
theorem outputs_keep_own_context (h : HCfg) (d : Delivery) :
    ∀ call ∈ (handleOne h d).calls, call.owners = call.items.map (fun it => some it.1) := by
  rw [handleOne_calls]
  split
  · exact List.forall_mem_singleton.mpr (by simp only [List.map_map, Function.comp_def])
  · exact List.forall_mem_nil _

/-- something is published exactly when the handler has a publisher and the chain returned at least one message -/
theorem published_iff (h : HCfg) (d : Delivery) :
    (handleOne h d).calls ≠ [] ↔ ∃ p r rs, h.pub = some p ∧ produced h d.shape = some (r :: rs) := by
  rw [handleOne_calls]
  split
  next p r rs hp ho => exact iff_of_true (List.cons_ne_nil _ _) ⟨p, r, rs, hp, ho⟩
  next hn => exact iff_of_false (· rfl) fun ⟨p, r, rs, hp, ho⟩ => hn p r rs hp ho

/-- **nopub_middleware_outputs_nack**: a handler without publisher whose chain returns messages (its function cannot
    – `fnMute` – so they come from a middleware; or a nil publisher) gets a Nack and nothing is published -/
theorem nopub_middleware_outputs_nack (h : HCfg) (d : Delivery) (hp : h.pub = none)
    (r : Ref) (rs : List Ref) (ho : produced h d.shape = some (r :: rs)) :
    (handleOne h d).settle = .nack ∧ (handleOne h d).calls = [] := by
  unfold handleOne
  simp [ho, hp]

example : (handleOne ⟨"np", 1, "in", "S", none, "", "message.disabledPublisher", 2, true, false⟩ ⟨1, "in", 7, .outs [.fresh 0], [], .live⟩)
    = ⟨7, "np", ⟨"np", "message.disabledPublisher", "S", "in", ""⟩, .nack, []⟩ := rfl
example : (handleOne ⟨"h", 1, "in", "S", some 3, "out", "P", 1, false, false⟩ ⟨1, "in", 7, .outs [.fresh 0, .consumed, .fresh 0], [], .cancelledDuring⟩).calls
    = [⟨3, "out", [(.fresh 0, ⟨"h", "P", "S", "in", "out"⟩), (.consumed, ⟨"h", "P", "S", "in", "out"⟩),
                   (.fresh 0, ⟨"h", "P", "S", "in", "out"⟩), (.mw 0, ⟨"h", "P", "S", "in", "out"⟩)],
        [some (.fresh 0), some .consumed, some (.fresh 0), some (.mw 0)]⟩] := rfl

/-- **routes_to_own_fn**: handler `h` processes exactly the messages that arrive at its (subscriber, topic), in
    arrival order, each with its own function -/
theorem routes_to_own_fn (h : HCfg) (script : List Delivery) :
    (runHandler h script).map (fun r => (r.mid, r.fn)) =
      (script.filter (listens h)).map (fun d => (d.mid, h.name)) := by
  unfold runHandler
  rw [List.map_map]
  exact List.map_congr_left fun d _ => Prod.ext (handleOne_fn h d).2 (handleOne_fn h d).1

theorem resultsOf_route (order : List HCfg) (script : List Delivery) (h : HCfg) (hm : h ∈ order)
    (hn : (order.map (·.name)).Nodup) : resultsOf h.name (route order script) = runHandler h script := by
  induction order with
  | nil => cases hm
  | cons g rest ih =>
    have ⟨hg, hrest⟩ := List.nodup_cons.mp hn
    rcases List.mem_cons.mp hm with rfl | hr
    · exact if_pos rfl
    · have hne : g.name ≠ h.name := fun e => hg (List.mem_map.mpr ⟨h, hr, e.symm⟩)
      exact (if_neg hne).trans (ih hr hrest)

/-- **the map order of `RunHandlers` does not matter**: for every permutation `order` of the configuration (handler
    names unique, as `AddHandler` enforces), what handler `h` does is `runHandler h script` -/
theorem route_order_irrelevant (cfg order : List HCfg) (script : List Delivery) (hperm : order.Perm cfg)
    (hn : (cfg.map (·.name)).Nodup) (h : HCfg) (hm : h ∈ cfg) :
    resultsOf h.name (route order script) = runHandler h script :=
  resultsOf_route order script h (hperm.mem_iff.mpr hm) ((hperm.map (·.name)).nodup_iff.mpr hn)

/-- **to that handler's function only**: whatever is recorded under handler `g` was done by `g`'s function on a
    message that arrived at `g`'s (subscriber, topic); so a message for another (subscriber, topic) never reaches `g` -/
theorem only_own_function (g : HCfg) (script : List Delivery) :
    ∀ r ∈ runHandler g script, r.fn = g.name ∧ ∃ d ∈ script, d.mid = r.mid ∧ d.sub = g.sub ∧ d.topic = g.subTopic := by
  intro r hr
  obtain ⟨d, hd, rfl⟩ := List.mem_map.mp hr
  have ⟨hds, hl⟩ := List.mem_filter.mp hd
  simp only [listens, Bool.and_eq_true, beq_iff_eq] at hl
  exact ⟨(handleOne_fn g d).1, d, hds, (handleOne_fn g d).2.symm, hl⟩

/-- **subscriptions_bijective**: `RunHandlers` makes one `Subscribe` call per handler, with that handler's
    (subscriber, topic) – whatever the map order -/
theorem subscriptions_bijective (cfg order : List HCfg) (hperm : order.Perm cfg) :
    (subscribeCalls order).Perm (cfg.map fun h => (h.sub, h.subTopic)) ∧ (subscribeCalls order).length = cfg.length :=
  ⟨hperm.map _, (List.length_map _).trans hperm.length_eq⟩

/-- non-vacuity: two handlers share subscriber and topic (both get a copy), a third listens elsewhere; started in
    a different order than configured -/
example :
    let a : HCfg := ⟨"a", 1, "t", "S", some 1, "oa", "P", 0, false, false⟩
    let b : HCfg := ⟨"b", 1, "t", "S", none, "", "message.disabledPublisher", 1, true, false⟩
    let c : HCfg := ⟨"c", 2, "t", "S2", some 1, "oc", "P", 0, false, false⟩
    let script : List Delivery := [⟨1, "t", 1, .outs [.fresh 0], [], .deadlineOverrun⟩, ⟨2, "t", 2, .err, [], .live⟩]
    (resultsOf "b" (route [c, b, a] script)).map (fun r => (r.mid, r.fn, r.settle, r.calls.length)) = [(1, "b", .nack, 0)] ∧
    (resultsOf "a" (route [c, b, a] script)).map (fun r => (r.mid, r.fn, r.settle, r.calls.length)) = [(1, "a", .ack, 1)] ∧
    (resultsOf "c" (route [c, b, a] script)).map (fun r => (r.mid, r.fn, r.settle, r.calls.length)) = [(2, "c", .nack, 0)] := by
  exact ⟨rfl, rfl, rfl⟩

/-! ### RunHandlers as an operation: handlers added to a running router, decorators applied exactly once -/

theorem startRH_of_started (s : RSt) (x : RH) (hs : x.started = true) : startRH s x = x := if_pos hs

theorem startRH_started (s : RSt) (x : RH) : (startRH s x).started = true := by
  unfold startRH; split <;> trivial

theorem startRH_cfg (s : RSt) (x : RH) : (startRH s x).cfg = x.cfg := by
  unfold startRH; split <;> rfl

/-- `if h.publisher == nil { return nil }` -/
theorem startRH_pubPath_nil (s : RSt) (x : RH) (hn : x.cfg.nilPub = true) : (startRH s x).pubPath = x.pubPath := by
  unfold startRH
  rw [if_pos hn]
  split <;> rfl

/-- a started handler is not touched by any later operation (`if h.started { continue }`) -/
theorem rexec_keeps_started (s : RSt) (ops : List ROp) (x : RH) (hx : x ∈ s.hs) (hs : x.started = true) :
    x ∈ (rexec s ops).hs :=
  List.foldlRecOn (motive := fun s => x ∈ s.hs) ops rstep hx fun s hx o _ => by
    cases o with
    | addHandler h => exact List.mem_append_left _ hx
    | pubDec i => exact hx
    | subDec i => exact hx
    | runHandlers => exact List.mem_map.mpr ⟨x, hx, startRH_of_started s x hs⟩

/-- **RunHandlers is idempotent**: calling it again (as often as one likes) changes nothing -/
theorem runHandlers_idempotent (s : RSt) : rstep (rstep s .runHandlers) .runHandlers = rstep s .runHandlers := by
  simp only [rstep, List.map_map]
  congr 1
  exact List.map_congr_left fun x _ => startRH_of_started _ _ (startRH_started s x)

/-- **each decorator exactly once per handler**: for every program `pre ++ runHandlers :: post` – any interleaving of
    AddHandler, decorator registrations and earlier / later RunHandlers calls – a handler that is added and not yet
    started when that call happens is from then on, whatever `post` does (more handlers, more decorators, RunHandlers
    again and again), wrapped by exactly the publisher decorators registered in `pre`, each once, first added first on
    the way out – none at all when it was registered with a nil publisher (there is nothing to decorate) – and exactly
    the subscriber decorators of `pre`, each once, first added first on the way in. -/
theorem decorated_exactly_once (pre post : List ROp) (x : RH)
    (hx : x ∈ (rexec {} pre).hs) (hns : x.started = false) (hp : x.pubPath = []) (hsp : x.subPath = []) :
    (⟨x.cfg, true, if x.cfg.nilPub then [] else (rexec {} pre).pd, (rexec {} pre).sd⟩ : RH) ∈
      (rexec {} (pre ++ .runHandlers :: post)).hs := by
  rw [show rexec {} (pre ++ .runHandlers :: post) = rexec (rstep (rexec {} pre) .runHandlers) post from
    List.foldl_append ..]
  refine rexec_keeps_started _ post _ (List.mem_map.mpr ⟨x, hx, ?_⟩) rfl
  obtain ⟨c, st, pp, sp⟩ := x
  subst hns hp hsp
  simp [startRH]

/-- a property of single handlers that a newly added handler has and that starting a handler preserves holds of every
    handler after every program -/
theorem rexec_handlers (P : RH → Prop) (hnew : ∀ c, P ⟨c, false, [], []⟩) (hstart : ∀ s x, P x → P (startRH s x))
    (ops : List ROp) : ∀ x ∈ (rexec {} ops).hs, P x :=
  List.foldlRecOn (motive := fun s => ∀ x ∈ s.hs, P x) ops rstep (List.forall_mem_nil _) fun s hs o _ x hx => by
    cases o with
    | addHandler c =>
      rcases List.mem_append.mp hx with h1 | h1
      · exact hs x h1
      · cases List.mem_singleton.mp h1; exact hnew c
    | pubDec i => exact hs x hx
    | subDec i => exact hs x hx
    | runHandlers =>
      obtain ⟨y, hy, rfl⟩ := List.mem_map.mp hx
      exact hstart s y (hs y hy)

/-- **no publisher ⇒ not decorated**: whatever the program, a handler registered with a nil publisher never has a
    publisher decorator around "its publisher" – it keeps `h.publisher == nil`, so `publishProducedMessages` answers
    ErrOutputInNoPublisherHandler (Nack, nothing published) and `handler.run` has nothing to Close -/
theorem nil_publisher_never_decorated (ops : List ROp) :
    ∀ x ∈ (rexec {} ops).hs, x.cfg.nilPub = true → x.pubPath = [] := by
  refine rexec_handlers _ (fun _ _ => rfl) (fun s x hx hn => ?_) ops
  rw [startRH_cfg] at hn
  rw [startRH_pubPath_nil s x hn]
  exact hx hn

/-- a handler never gets a non-empty path before it is started (so the side conditions of `decorated_exactly_once`
    hold for every not yet started handler of every reachable state) -/
theorem unstarted_undecorated (ops : List ROp) :
    ∀ x ∈ (rexec {} ops).hs, x.started = false → x.pubPath = [] ∧ x.subPath = [] := by
  refine rexec_handlers _ (fun _ _ => ⟨rfl, rfl⟩) (fun s x _ hst => ?_) ops
  rw [startRH_started] at hst
  cases hst

/-- a `RunHandlers` call that fails part-way (a publisher decorator returned an error): the handlers in `p` – whichever
    the map order put before the failing one – were started, the others are untouched (a failed
    `decorateHandlerPublisher` commits nothing) -/
def rstepPartial (p : RH → Bool) (s : RSt) : RSt :=
  { s with hs := s.hs.map fun h => if p h then startRH s h else h }

/-- **a failed attempt followed by the retry = one call that never failed**: whatever subset the failed attempt got
    started, after the retry every handler is started and decorated exactly as by a single successful `RunHandlers` -/
theorem failed_attempt_then_retry (p : RH → Bool) (s : RSt) :
    rstep (rstepPartial p s) .runHandlers = rstep s .runHandlers := by
  simp only [rstep, rstepPartial, List.map_map]
  congr 1
  refine List.map_congr_left fun x _ => ?_
  show startRH s (if p x then startRH s x else x) = startRH s x
  split
  · exact startRH_of_started _ _ (startRH_started s x)
  · rfl

/-- non-vacuity: decorator 7, handler a, Run; decorator 8 and handler b added to the running router, RunHandlers three
    times: a keeps [7], b gets [7, 8] once -/
example :
    let a : HCfg := ⟨"a", 1, "t", "S", some 1, "oa", "P", 0, false, false⟩
    let b : HCfg := ⟨"b", 1, "t", "S", some 1, "ob", "P", 0, false, false⟩
    ((rexec {} [.pubDec 7, .subDec 3, .addHandler a, .runHandlers, .pubDec 8, .addHandler b,
                .runHandlers, .runHandlers, .runHandlers]).hs.map fun h => (h.cfg.name, h.pubPath, h.subPath)) =
      [("a", [7], [3]), ("b", [7, 8], [3])] := rfl

/-- non-vacuity: the same with handler b registered with a nil publisher: the publisher decorators skip it, the
    subscriber decorators do not -/
example :
    let a : HCfg := ⟨"a", 1, "t", "S", some 1, "oa", "P", 0, false, false⟩
    let b : HCfg := ⟨"b", 1, "t", "S", none, "ob", "<nil>", 0, false, true⟩
    ((rexec {} [.pubDec 7, .subDec 3, .addHandler a, .addHandler b, .runHandlers, .runHandlers]).hs.map
      fun h => (h.cfg.name, h.pubPath, h.subPath)) = [("a", [7], [3]), ("b", [], [3])] := rfl

end Wm.Route
