/-
  C12 – Retry middleware: bounded attempts, back-off, first success wins, error kept.
  Property theorems only (helper lemmas: `WmModel/Lemmas/Retry.lean`, `WmModel/Lemmas/RetryArith.lean`).
  Model: `WmModel/Retry.lean`.  Every statement quantifies over every configuration and every script (outcomes
  with arbitrary outputs, durations, random draws, select picks, lags); no bound on MaxRetries or on any length.
  Indices: call 0 is the first call, call k ≥ 1 is the k-th retry, made in pass k of the loop (`retryNum = k`).
-/
import WmModel.Lemmas.Retry
import WmModel.Lemmas.RetryArith
namespace Wm.Retry

/-- outcome the script holds for call `i` -/
def scriptOut (sc : Script) (i : Nat) : Outcome := if i = 0 then sc.first else (sc.iter i).out

/-- a script for the examples: call `i` fails with error `i` and outputs `[i]`, except call `okAt`, which succeeds;
    every call takes 5 ns, every lag is 1 ns, the draw is 1/2 -/
def exScript (okAt : Nat) (pick : Nat → Pick) : Script :=
  ⟨⟨[0], if okAt = 0 then none else some 0⟩, 5, 1,
   fun k => ⟨1, 2 ^ 52, pick k, 5, ⟨[k], if k = okAt then none else some k⟩⟩⟩

/-- MaxRetries 3, 1000 ns × 3/2 capped at 3000 ns, RandomizationFactor 1/2, no MaxElapsedTime, hook set -/
def exCfg : Cfg := ⟨3, 1000, 3000, 3, 2, 1, 2, 0, true⟩

/-! ### the loop is total -/

/-- the `outOfFuel` result of the model is unreachable, for every configuration and script -/
theorem never_out_of_fuel (cfg : Cfg) (sc : Script) : (retry cfg sc).why ≠ .outOfFuel :=
  (retry_isRun cfg sc).fuel

/-! ### which calls are made -/

/-- the calls are the scripted ones, in order -/
theorem attempts_follow_script (cfg : Cfg) (sc : Script) (i : Nat) (a : Attempt)
    (h : (retry cfg sc).attempts[i]? = some a) : a.out = scriptOut sc i := by
  cases i with
  | zero => rw [(retry_isRun cfg sc).first] at h; cases h; rfl
  | succ i =>
    obtain ⟨a', ha'⟩ : ∃ a', (retry cfg sc).attempts[i]? = some a' :=
      ⟨_, List.getElem?_eq_getElem (Nat.lt_of_succ_lt (List.getElem?_eq_some_iff.mp h).1)⟩
    obtain ⟨_, _, _, _, _, rfl⟩ := (retry_isRun cfg sc).pass i a' a ha' h
    rfl

/-- **first success wins**: a successful call is the last call made, and `Retry` returns exactly its outputs with a
    nil error -/
theorem first_success_wins (cfg : Cfg) (sc : Script) (i : Nat) (a : Attempt)
    (h : (retry cfg sc).attempts[i]? = some a) (hok : a.out.err = none) :
    i + 1 = (retry cfg sc).attempts.length ∧ (retry cfg sc).err = none ∧ (retry cfg sc).msgs = a.out.outs ∧
    (retry cfg sc).why = .success := by
  -- a call after `a` would mean that `a` failed
  have hlast : i + 1 = (retry cfg sc).attempts.length := by
    have hi := (List.getElem?_eq_some_iff.mp h).1
    refine Nat.le_antisymm hi (Nat.le_of_not_lt fun hlt => ?_)
    obtain ⟨e, he, _⟩ := (retry_isRun cfg sc).pass i a _ h (List.getElem?_eq_getElem hlt)
    rw [hok] at he; cases he
  obtain ⟨a', hl, herr, hmsgs, hwhy⟩ := (retry_isRun cfg sc).last
  rw [List.getLast?_eq_getElem?, ← hlast, Nat.add_sub_cancel, h] at hl
  cases hl
  have hw := hwhy.mpr hok
  exact ⟨hlast, herr.trans hok, by rw [hmsgs, hw]; rfl, hw⟩

example : (retry exCfg (exScript 2 fun _ => .timer 0)).attempts.length = 3 ∧
    (retry exCfg (exScript 2 fun _ => .timer 0)).msgs = [2] ∧ (retry exCfg (exScript 2 fun _ => .timer 0)).err = none := by decide

/-- **at most MaxRetries re-invocations** (MaxRetries ≥ 1): the handler is called at most 1 + MaxRetries times,
    whatever the outcomes, picks, draws and times are -/
theorem at_most_max_retries (cfg : Cfg) (h1 : 1 ≤ cfg.maxRetries) (sc : Script) :
    (retry cfg sc).attempts.length ≤ 1 + cfg.maxRetries.toNat := by
  have := (retry_isRun cfg sc).count h1
  omega

example : (1 : Int) ≤ exCfg.maxRetries ∧ (retry exCfg (exScript 9 fun _ => .timer 0)).attempts.length = 4 := by decide

/-- the bound is reached: when every call fails, every timer fires and the back-off never stops, the handler is called
    exactly 1 + MaxRetries times and the retries are reported as exhausted -/
theorem exhausts_all_retries (cfg : Cfg) (h1 : 1 ≤ cfg.maxRetries) (sc : Script) (hE : cfg.maxElapsed = 0)
    (hf : sc.first.err ≠ none) (hfail : ∀ k, (sc.iter k).out.err ≠ none) (hpick : ∀ k, ∃ late, (sc.iter k).pick = .timer late) :
    (retry cfg sc).attempts.length = 1 + cfg.maxRetries.toNat ∧ (retry cfg sc).why = .exhausted := by
  have hr := retry_isRun cfg sc
  have hw : (retry cfg sc).why = .exhausted := by
    cases hw : (retry cfg sc).why with
    | exhausted => rfl
    | outOfFuel => exact absurd hw hr.fuel
    | backoffStop => exact absurd hE (hr.backoffStop hw)
    | ctxDone => obtain ⟨late, hl⟩ := hpick (retry cfg sc).attempts.length; rw [hr.ctxDone hw] at hl; cases hl
    | success =>
      -- the last call succeeded, but the script holds no success
      obtain ⟨a, hl, _, _, hs⟩ := hr.last
      obtain ⟨i, hi⟩ := List.getElem?_of_mem (List.mem_of_getLast? hl)
      have hok := hs.mp hw
      rw [attempts_follow_script cfg sc i a hi, scriptOut] at hok
      split at hok
      · exact absurd hok hf
      · exact absurd hok (hfail i)
  have := hr.exhausted hw
  have := hr.count h1
  exact ⟨by omega, hw⟩

/-- **re-invokes while attempts fail – giving up early always has one of the two stated reasons**: when fewer than
    1 + MaxRetries calls were made (MaxRetries ≥ 1), the run ended by a success, by `ctx.Done()` in the `select`, or by the
    back-off reporting `Stop` (MaxElapsedTime); never silently -/
theorem gives_up_early_only_for_a_reason (cfg : Cfg) (h1 : 1 ≤ cfg.maxRetries) (sc : Script)
    (hlt : (retry cfg sc).attempts.length < 1 + cfg.maxRetries.toNat) :
    (retry cfg sc).why = .success ∨ (retry cfg sc).why = .ctxDone ∨ (retry cfg sc).why = .backoffStop := by
  cases hw : (retry cfg sc).why with
  | success => simp
  | ctxDone => simp
  | backoffStop => simp
  | outOfFuel => exact absurd hw (retry_isRun cfg sc).fuel
  | exhausted => have := (retry_isRun cfg sc).exhausted hw; omega

/-- `Stop` is reported only when MaxElapsedTime is configured -/
theorem backoff_stop_needs_max_elapsed (cfg : Cfg) (sc : Script) (h : (retry cfg sc).why = .backoffStop) :
    cfg.maxElapsed ≠ 0 :=
  (retry_isRun cfg sc).backoffStop h

example : (retry exCfg (exScript 2 fun _ => .timer 0)).attempts.length < 1 + exCfg.maxRetries.toNat ∧
    (retry exCfg (exScript 2 fun _ => .timer 0)).why = .success := by decide

/-! ### what is returned -/

/-- at least one call is made, and the returned error is always the error of the last call made -/
theorem result_is_last_attempts (cfg : Cfg) (sc : Script) :
    ∃ a, (retry cfg sc).attempts.getLast? = some a ∧ (retry cfg sc).err = a.out.err := by
  obtain ⟨a, hl, herr, _⟩ := (retry_isRun cfg sc).last
  exact ⟨a, hl, herr⟩

/-- **finally returns the last error**: when no call succeeded, the error returned is the one of the last call -/
theorem last_error_returned (cfg : Cfg) (sc : Script) (hfail : ∀ a ∈ (retry cfg sc).attempts, a.out.err ≠ none) :
    ∃ a e, (retry cfg sc).attempts.getLast? = some a ∧ a.out.err = some e ∧ (retry cfg sc).err = some e := by
  obtain ⟨a, h1, h2⟩ := result_is_last_attempts cfg sc
  have hm : a ∈ (retry cfg sc).attempts := List.mem_of_getLast? h1
  cases he : a.out.err with
  | none => exact absurd he (hfail a hm)
  | some e => exact ⟨a, e, h1, he, by rw [h2, he]⟩

example : (retry exCfg (exScript 9 fun _ => .timer 0)).err = some 3 ∧ (retry exCfg (exScript 9 fun _ => .timer 0)).msgs = [] := by decide

/-- **never turns a failure into success**: a nil error is returned only if a call succeeded (the last one) -/
theorem never_invents_success (cfg : Cfg) (sc : Script) (h : (retry cfg sc).err = none) :
    ∃ a ∈ (retry cfg sc).attempts, a.out.err = none ∧ (retry cfg sc).msgs = a.out.outs := by
  obtain ⟨a, hl, herr, hmsgs, hwhy⟩ := (retry_isRun cfg sc).last
  have hok : a.out.err = none := herr.symm.trans h
  exact ⟨a, List.mem_of_getLast? hl, hok, by rw [hmsgs, hwhy.mpr hok]; rfl⟩

/-- the returned messages: `nil` when the retries are exhausted, otherwise the outputs of the last call -/
theorem returned_messages (cfg : Cfg) (sc : Script) :
    ∃ a, (retry cfg sc).attempts.getLast? = some a ∧
      (retry cfg sc).msgs = if (retry cfg sc).why = .exhausted then [] else a.out.outs := by
  obtain ⟨a, hl, _, hmsgs, _⟩ := (retry_isRun cfg sc).last
  exact ⟨a, hl, hmsgs⟩

/-! ### the hook -/

/-- **OnRetryHook is called with 1, 2, … in order**, once per failed retry -/
theorem hooks_in_order (cfg : Cfg) (sc : Script) (hh : cfg.hook = true) :
    (retry cfg sc).hooks.map (·.1) = List.range' 1 ((retry cfg sc).attempts.tail.filter failed).length := by
  rw [(retry_isRun cfg sc).hooks, if_pos hh, List.map_map]
  exact List.map_id _

theorem no_hook_calls_without_hook (cfg : Cfg) (sc : Script) (hh : cfg.hook = false) : (retry cfg sc).hooks = [] := by
  rw [(retry_isRun cfg sc).hooks, hh]
  rfl

example : (retry exCfg (exScript 9 fun _ => .timer 0)).hooks.map (·.1) = [1, 2, 3] := by decide

/-- the delay passed to hook call `n` is the wait computed in pass `n`, from the n-th interval -/
theorem hook_reports_wait (cfg : Cfg) (sc : Script) (n d : Nat) (h : (n, d) ∈ (retry cfg sc).hooks) :
    1 ≤ n ∧ d = randomized cfg (curAt cfg (n - 1)) (sc.iter n).draw := by
  rw [(retry_isRun cfg sc).hooks] at h
  split at h
  · obtain ⟨k, hk, hkd⟩ := List.mem_map.mp h
    cases hkd
    exact ⟨(List.mem_range'_1.mp hk).1, rfl⟩
  · cases h

/-! ### the back-off -/

/-- **closed form of the interval** (integer multiplier, InitialInterval ≤ MaxInterval): the interval used before the
    k-th retry (k = i + 1) is `min(InitialInterval · Multiplier^i, MaxInterval)` – derived from the library's update rule -/
theorem interval_closed_form (cfg : Cfg) (hq : cfg.mulD = 1) (hp : 1 ≤ cfg.mulN) (hi : cfg.init ≤ cfg.maxInt) (i : Nat) :
    curAt cfg i = min (cfg.init * cfg.mulN ^ i) cfg.maxInt := by
  induction i with
  | zero => rw [Nat.pow_zero, Nat.mul_one, Nat.min_eq_left hi]; rfl
  | succ i ih => rw [curAt, ih, nextCur_min cfg hq hp, Nat.pow_succ, Nat.mul_assoc]

example : curAt ⟨8, 1000, 5000, 2, 1, 0, 1, 0, true⟩ 2 = 4000 ∧ curAt ⟨8, 1000, 5000, 2, 1, 0, 1, 0, true⟩ 3 = 5000 := by decide

/-- **closed form for a fractional multiplier** `p/q ≥ 1` (InitialInterval ≤ MaxInterval): the interval is
    `min(init·(p/q)^i, max)` up to the integer truncation the library performs in every step
    (`time.Duration(float64(cur) * mult)`); everything is scaled by `q^i`, `truncSlack cfg i / q^i < (p/q)^i / (p/q − 1)` ns -/
theorem interval_closed_form_frac (cfg : Cfg) (hq : 1 ≤ cfg.mulD) (hpq : cfg.mulD ≤ cfg.mulN) (hi : cfg.init ≤ cfg.maxInt) (i : Nat) :
    curAt cfg i * cfg.mulD ^ i ≤ min (cfg.init * cfg.mulN ^ i) (cfg.maxInt * cfg.mulD ^ i) ∧
    min (cfg.init * cfg.mulN ^ i) (cfg.maxInt * cfg.mulD ^ i) ≤ curAt cfg i * cfg.mulD ^ i + truncSlack cfg i :=
  ⟨Nat.le_min.mpr ⟨curAt_mul_le cfg i, Nat.mul_le_mul_right _ (curAt_le_maxInt cfg hi i)⟩, curAt_lower cfg hq hpq i⟩

example : curAt exCfg 1 = 1500 ∧ curAt exCfg 2 = 2250 ∧ curAt exCfg 3 = 3000 ∧ truncSlack exCfg 2 = 10 := by decide

/-- **waits at least the back-off before the k-th retry** (k = i + 1): between the end of call i and the start of
    call i+1 at least ⌊cur_k · (1 − RandomizationFactor)⌋ passes, `cur_k = curAt cfg i` being the k-th interval -/
theorem wait_at_least_backoff (cfg : Cfg) (sc : Script) (i : Nat) (a b : Attempt)
    (ha : (retry cfg sc).attempts[i]? = some a) (hb : (retry cfg sc).attempts[i + 1]? = some b) :
    a.stop + lowEnd cfg (curAt cfg i) ≤ b.start ∧
    a.stop + randomized cfg (curAt cfg i) (sc.iter (i + 1)).draw ≤ b.start := by
  obtain ⟨e, _, _, late, _, rfl⟩ := (retry_isRun cfg sc).pass i a b ha hb
  have hnow := stop_le_stAfter_now cfg sc i a e
  have hlow := lowEnd_le_randomized cfg (curAt cfg i) (sc.iter (i + 1)).draw
  rw [attemptOf_start, stAfter_cur, stAfter_retryNum]
  omega

example : (retry exCfg (exScript 9 fun _ => .timer 0)).attempts.map (fun a => (a.start, a.stop)) =
    [(0, 5), (1007, 1012), (2513, 2518), (4769, 4774)] := by decide

/-- **the property's own formula** (integer multiplier, InitialInterval ≤ MaxInterval): the time `g` between the end of
    call i and the start of call i+1 (the (i+1)-th retry) satisfies
    `g + 1 > min(InitialInterval · Multiplier^i, MaxInterval) · (1 − RandomizationFactor)` – the `+ 1` is the ns truncation of
    `getRandomValueFromInterval` -/
theorem wait_at_least_configured_backoff (cfg : Cfg) (sc : Script) (hq : cfg.mulD = 1) (hp : 1 ≤ cfg.mulN)
    (hi : cfg.init ≤ cfg.maxInt) (hb : 0 < cfg.rfD) (i g : Nat) (a b : Attempt)
    (ha : (retry cfg sc).attempts[i]? = some a) (hb' : (retry cfg sc).attempts[i + 1]? = some b) (hg : b.start = a.stop + g) :
    min (cfg.init * cfg.mulN ^ i) cfg.maxInt * (cfg.rfD - cfg.rfN) < (g + 1) * cfg.rfD := by
  rw [← interval_closed_form cfg hq hp hi i]
  exact lt_of_lowEnd_le cfg _ g hb (by have := (wait_at_least_backoff cfg sc i a b ha hb').1; omega)

/-- the same for a fractional multiplier `p/q ≥ 1`, scaled by `q^i`, with the library's accumulated truncation `truncSlack` -/
theorem wait_at_least_configured_backoff_frac (cfg : Cfg) (sc : Script) (hq : 1 ≤ cfg.mulD) (hpq : cfg.mulD ≤ cfg.mulN)
    (hb : 0 < cfg.rfD) (i g : Nat) (a b : Attempt)
    (ha : (retry cfg sc).attempts[i]? = some a) (hb' : (retry cfg sc).attempts[i + 1]? = some b) (hg : b.start = a.stop + g) :
    min (cfg.init * cfg.mulN ^ i) (cfg.maxInt * cfg.mulD ^ i) * (cfg.rfD - cfg.rfN) <
      (g + 1) * cfg.mulD ^ i * cfg.rfD + truncSlack cfg i * cfg.rfD := by
  have hlt := lt_of_lowEnd_le cfg (curAt cfg i) g hb (by have := (wait_at_least_backoff cfg sc i a b ha hb').1; omega)
  calc min (cfg.init * cfg.mulN ^ i) (cfg.maxInt * cfg.mulD ^ i) * (cfg.rfD - cfg.rfN)
      ≤ (curAt cfg i * cfg.mulD ^ i + truncSlack cfg i) * (cfg.rfD - cfg.rfN) :=
        Nat.mul_le_mul_right _ (curAt_lower cfg hq hpq i)
    _ = curAt cfg i * (cfg.rfD - cfg.rfN) * cfg.mulD ^ i + truncSlack cfg i * (cfg.rfD - cfg.rfN) := by
        rw [Nat.add_mul, Nat.mul_right_comm]
    _ < (g + 1) * cfg.rfD * cfg.mulD ^ i + truncSlack cfg i * cfg.rfD :=
        Nat.add_lt_add_of_lt_of_le (Nat.mul_lt_mul_of_pos_right hlt (Nat.pow_pos hq)) (Nat.mul_le_mul_left _ (Nat.sub_le _ _))
    _ = (g + 1) * cfg.mulD ^ i * cfg.rfD + truncSlack cfg i * cfg.rfD := by rw [Nat.mul_right_comm]

/-- **the reported delay lies in the jitter interval** `[⌊cur_n(1−rf)⌋, ⌊cur_n(1+rf)⌋ + 1]` of the n-th interval
    (for draws in [0,1) and 0 ≤ rf ≤ 1) -/
theorem reported_delay_in_interval (cfg : Cfg) (sc : Script) (n d : Nat) (h : (n, d) ∈ (retry cfg sc).hooks)
    (hb : 0 < cfg.rfD) (hab : cfg.rfN ≤ cfg.rfD) (hd : (sc.iter n).draw < drawDen) :
    lowEnd cfg (curAt cfg (n - 1)) ≤ d ∧ d ≤ highEnd cfg (curAt cfg (n - 1)) := by
  obtain ⟨_, h2⟩ := hook_reports_wait cfg sc n d h
  rw [h2]
  exact ⟨lowEnd_le_randomized _ _ _, randomized_le_highEnd _ _ _ hb hab hd⟩

/-- the wait before retry n is at least the delay reported to the hook for retry n -/
theorem waited_reported_delay (cfg : Cfg) (sc : Script) (n d : Nat) (h : (n, d) ∈ (retry cfg sc).hooks) (a b : Attempt)
    (ha : (retry cfg sc).attempts[n - 1]? = some a) (hb : (retry cfg sc).attempts[n]? = some b) :
    a.stop + d ≤ b.start := by
  obtain ⟨h1, rfl⟩ := hook_reports_wait cfg sc n d h
  obtain ⟨n, rfl⟩ : ∃ m, n = m + 1 := ⟨n - 1, by omega⟩
  exact (wait_at_least_backoff cfg sc n a b ha hb).2

/-! ### giving up early -/

/-- **gives up when the context ends**: if the `select` of pass k takes `ctx.Done()`, no call k or later is made … -/
theorem gives_up_on_ctx_end (cfg : Cfg) (sc : Script) (k : Nat) (hk : 1 ≤ k) (hp : (sc.iter k).pick = .ctxDone) :
    (retry cfg sc).attempts.length ≤ k := by
  refine Nat.le_of_not_lt fun hlt => ?_
  obtain ⟨k, rfl⟩ : ∃ j, k = j + 1 := ⟨k - 1, by omega⟩
  obtain ⟨_, _, _, late, hl, _⟩ := (retry_isRun cfg sc).pass k _ _ (List.getElem?_eq_getElem (Nat.lt_of_succ_lt hlt))
    (List.getElem?_eq_getElem hlt)
  rw [stAfter_retryNum, hp] at hl
  cases hl

/-- … **still returning the error**: whenever `Retry` gives up (context done, back-off `Stop`, retries exhausted) the
    result is a non-nil error, the one of the last call -/
theorem gives_up_keeps_error (cfg : Cfg) (sc : Script) (h : (retry cfg sc).why ≠ .success) :
    ∃ a e, (retry cfg sc).attempts.getLast? = some a ∧ a.out.err = some e ∧ (retry cfg sc).err = some e := by
  obtain ⟨a, hl, herr, _, hwhy⟩ := (retry_isRun cfg sc).last
  cases he : a.out.err with
  | none => exact absurd (hwhy.mpr he) h
  | some e => exact ⟨a, e, hl, he, herr.trans he⟩

example : (retry exCfg (exScript 9 fun k => if k = 2 then .ctxDone else .timer 0)).attempts.length = 2 ∧
    (retry exCfg (exScript 9 fun k => if k = 2 then .ctxDone else .timer 0)).err = some 1 ∧
    (retry exCfg (exScript 9 fun k => if k = 2 then .ctxDone else .timer 0)).why = .ctxDone := by decide

/-- **gives up when MaxElapsedTime has passed**: a retry (call i + 1) is made only if, when the previous call ended,
    at most MaxElapsedTime had passed since the back-off was started (`Reset`, `resetLag` after the end of call 0);
    i.e. no call is begun after the back-off reported `Stop` -/
theorem gives_up_on_elapsed (cfg : Cfg) (sc : Script) (hE : cfg.maxElapsed ≠ 0) (i : Nat) (a0 a b : Attempt)
    (h0 : (retry cfg sc).attempts[0]? = some a0)
    (ha : (retry cfg sc).attempts[i]? = some a) (hb : (retry cfg sc).attempts[i + 1]? = some b) :
    a.stop ≤ a0.stop + sc.resetLag + cfg.maxElapsed := by
  rw [(retry_isRun cfg sc).first] at h0
  cases h0
  obtain ⟨e, _, hs, _⟩ := (retry_isRun cfg sc).pass i a b ha hb
  have hnow := stop_le_stAfter_now cfg sc i a e
  have := le_of_stops_false cfg _ hE hs
  simp only [firstCall]
  omega

/-- the same in quantities a caller can observe: the end of call i, the start of call 1 and the first reported delay -/
theorem gives_up_on_elapsed_observable (cfg : Cfg) (sc : Script) (hE : cfg.maxElapsed ≠ 0) (i : Nat) (a0 a1 a b : Attempt)
    (h0 : (retry cfg sc).attempts[0]? = some a0) (h1 : (retry cfg sc).attempts[1]? = some a1)
    (ha : (retry cfg sc).attempts[i]? = some a) (hb : (retry cfg sc).attempts[i + 1]? = some b) :
    a.stop + randomized cfg cfg.init (sc.iter 1).draw ≤ a1.start + cfg.maxElapsed := by
  have hel := gives_up_on_elapsed cfg sc hE i a0 a b h0 ha hb
  rw [(retry_isRun cfg sc).first] at h0
  cases h0
  obtain ⟨e, _, _, late, _, rfl⟩ := (retry_isRun cfg sc).pass 0 _ a1 (retry_isRun cfg sc).first h1
  simp only [firstCall] at hel
  simp only [attemptOf_start, stAfter, firstCall, curAt, ↓reduceIte, Nat.zero_add]
  omega

/-- MaxElapsedTime 2000 ns; call 1 takes 5000 ns: the back-off reports `Stop` in pass 2 -/
example : (retry ⟨8, 100, 100, 1, 1, 0, 1, 2000, true⟩
      ⟨⟨[], some 0⟩, 5, 1, fun k => ⟨1, 0, .timer 0, if k = 1 then 5000 else 5, ⟨[], some k⟩⟩⟩).attempts.length = 2 ∧
    (retry ⟨8, 100, 100, 1, 1, 0, 1, 2000, true⟩
      ⟨⟨[], some 0⟩, 5, 1, fun k => ⟨1, 0, .timer 0, if k = 1 then 5000 else 5, ⟨[], some k⟩⟩⟩).why = .backoffStop ∧
    (retry ⟨8, 100, 100, 1, 1, 0, 1, 2000, true⟩
      ⟨⟨[], some 0⟩, 5, 1, fun k => ⟨1, 0, .timer 0, if k = 1 then 5000 else 5, ⟨[], some k⟩⟩⟩).err = some 1 := by decide

/-! ### the defect repaired by "Retry stops on backoff.Stop" (kept as a witness) -/

/-- the loop without the `Stop` check (`retryOld`) keeps calling the handler after MaxElapsedTime, with no wait,
    when the `select` takes the (already due) timer: here 9 calls and hook delays 0 where the repaired loop makes 2 -/
theorem old_retry_after_stop_witness :
    ∃ cfg sc, cfg.maxElapsed ≠ 0 ∧ (retryOld cfg sc).attempts.length = 9 ∧ (retry cfg sc).attempts.length = 2 ∧
      (retryOld cfg sc).hooks.map (·.2) = [100, 0, 0, 0, 0, 0, 0, 0] :=
  ⟨⟨8, 100, 100, 1, 1, 0, 1, 2000, true⟩,
   ⟨⟨[], some 0⟩, 5, 1, fun k => ⟨1, 0, .timer 0, if k = 1 then 5000 else 5, ⟨[], some k⟩⟩⟩, by decide⟩

end Wm.Retry
