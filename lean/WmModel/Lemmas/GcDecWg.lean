import WmModel.Lemmas.GcDecStep
namespace Wm.GcDec

/-- thread accounts for one unit of `subscribeWg` -/
def owes : Th → Bool
  | .sub _ .unlock | .sub _ .spawn => true
  | .pump _ .done _ _ _ => false
  | .pump _ _ _ _ _ => true
  | _ => false

def WgOk (s : St) : Prop := s.wg = s.ths.countP owes

theorem wg_init : WgOk init := rfl

theorem wg_set (s u : St) (i : Nat) (old new : Th) (hold : s.ths[i]? = some old) (hths : u.ths = s.ths.set i new)
    (hwg : u.wg + (owes old).toNat = s.wg + (owes new).toNat) (h : WgOk s) : WgOk u := by
  have c := countP_set_get owes s.ths i old new hold
  unfold WgOk at *
  rw [h, ← c, ← hths] at hwg
  exact Nat.add_right_cancel hwg

theorem wg_append (s u : St) (new : Th) (hn : owes new = false) (hths : u.ths = s.ths ++ [new]) (hwg : u.wg = s.wg)
    (h : WgOk s) : WgOk u := by
  unfold WgOk at *
  rw [hths, List.countP_append, hwg, h]; simp [hn]

theorem wg_congr (s u : St) (h1 : u.ths = s.ths) (h2 : u.wg = s.wg) (h : WgOk s) : WgOk u := by
  unfold WgOk at *; rw [h1, h2]; exact h

theorem wg_step (s : St) (a : Action) (s' : St) (h : WgOk s) (ha : act s a = some s') : WgOk s' := by
  cases step_of_act ha
  case newSub | newClose => exact wg_append s _ _ rfl rfl rfl h
  case push | inClose | panic => exact wg_congr s _ rfl rfl h
  case spawn i k hth =>
    -- the unit of `subscribeWg` passes from the Subscribe call to the pump it starts
    have c := countP_set_get owes s.ths i _ (Th.sub k .retOk) hth
    unfold WgOk at h ⊢
    rw [List.countP_append, h]; exact c.symm
  case move hth hm =>
    cases hm
    case wgDone hz => exact wg_set s _ _ _ _ hth rfl (Nat.sub_add_cancel (Nat.pos_of_ne_zero hz)) h
    all_goals exact wg_set s _ _ _ _ hth rfl rfl h

end Wm.GcDec
