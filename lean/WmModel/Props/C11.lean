/-
  C11 – persistent GoChannel replays the whole topic to every subscription exactly once:
  theorem over every reachable state of M_topic (WmModel/GcTopic.lean) – any number of Publish calls with any
  batches, any number of Subscribe calls and unsubscribes, every interleaving of their critical regions.
-/
import WmModel.GcTopic
import WmModel.Lts
namespace Wm.GcTopic
open Wm.Lts

def sys : Sys St Action := { init := init, act := act }

/-- `act` by cases: the phase each action asks for and the state it leads to -/
inductive Step (s : St) : Action → St → Prop
  | pLock (ms : List Nat) (hp : s.phase = .free) : Step s (.pLock ms) { s with phase := .pubLocked ms }
  | pPersist {ms : List Nat} (hp : s.phase = .pubLocked ms) :
    Step s .pPersist { s with log := s.log ++ ms, phase := .pubSending ms }
  | pAbort {ms : List Nat} (hp : s.phase = .pubLocked ms) : Step s .pAbort { s with phase := .free }
  | pSend {m : Nat} {rest : List Nat} (hp : s.phase = .pubSending (m :: rest)) :
    Step s .pSend { s with regs := s.regs.map (· ++ [m]), phase := .pubSending rest }
  | pUnlock (hp : s.phase = .pubSending []) : Step s .pUnlock { s with phase := .free }
  | uLock (hp : s.phase = .free) : Step s .uLock { s with phase := .subLocked }
  | uReplay (hp : s.phase = .subLocked) : Step s .uReplay { s with phase := .subReplayed s.log }
  | uRegister {g : List Nat} (hp : s.phase = .subReplayed g) :
    Step s .uRegister { s with regs := s.regs ++ [g], phase := .free }
  | unsub {k : Nat} (hp : s.phase = .free) (hk : k < s.regs.length) :
    Step s (.unsub k) { s with regs := s.regs.eraseIdx k }

theorem step_of_act {s s' : St} {a : Action} (h : act s a = some s') : Step s a s' := by
  cases a <;> simp only [act] at h <;> split at h <;> try split at h
  all_goals cases h
  all_goals constructor <;> assumption

/-- senders started so far for every registered subscription, relative to the persisted log -/
def Ok (s : St) : Prop :=
  match s.phase with
  | .free | .pubLocked _ | .subLocked => ∀ g ∈ s.regs, g = s.log
  | .pubSending rest => ∀ g ∈ s.regs, g ++ rest = s.log
  | .subReplayed g0 => g0 = s.log ∧ ∀ g ∈ s.regs, g = s.log

theorem ok_step (s : St) (a : Action) (s' : St) (h : Ok s) (ha : act s a = some s') : Ok s' := by
  -- `hp` turns `h` into the clause of `Ok` for the phase the step starts in; the goal is the clause for the phase reached
  unfold Ok at h
  cases step_of_act ha with
  | pLock _ hp | pAbort hp | uLock hp => rw [hp] at h; exact h
  | pPersist hp => rw [hp] at h; exact fun g hg => by rw [h g hg]
  | pSend hp =>
    rw [hp] at h
    intro g hg
    obtain ⟨g0, hg0, rfl⟩ := List.mem_map.1 hg
    rw [List.append_assoc]
    exact h g0 hg0
  | pUnlock hp => rw [hp] at h; exact fun g hg => List.append_nil g ▸ h g hg
  | uReplay hp => rw [hp] at h; exact ⟨rfl, h⟩
  | uRegister hp =>
    rw [hp] at h
    intro g' hg'
    rcases List.mem_append.1 hg' with hg' | hg'
    · exact h.2 g' hg'
    · exact List.mem_singleton.1 hg' ▸ h.1
  | unsub hp _ => rw [hp] at h ⊢; exact fun g hg => h g (List.mem_of_mem_eraseIdx hg)

theorem reach_ok : ∀ s, Reach sys s → Ok s :=
  inv_of_step sys Ok (by simp [Ok, init, sys]) (fun s a s' h ha => ok_step s a s' h ha)

/-- **exactly one sender per subscription and persisted message**: whenever no Publish/Subscribe is inside its
    critical region, every registered subscription has had senders started for exactly the persisted log –
    the same messages, the same number of times, in the same order; this covers messages published before,
    during and after the Subscribe call -/
theorem exactly_one_sender (s : St) (h : Reach sys s) (hf : s.phase = .free) (g : List Nat) (hg : g ∈ s.regs) :
    g = s.log := by
  have := reach_ok s h
  rw [Ok, hf] at this
  exact this g hg

/-- in multiset form: neither missed nor doubled -/
theorem sender_count_eq (s : St) (h : Reach sys s) (hf : s.phase = .free) (g : List Nat) (hg : g ∈ s.regs) (m : Nat) :
    g.count m = s.log.count m := by
  rw [exactly_one_sender s h hf g hg]

/-- while a Publish is half way through its batch a registered subscription lacks exactly the unsent rest – the
    reason why Subscribe's replay+register must not interleave with it (they exclude each other on the topic mutex) -/
theorem mid_publish (s : St) (h : Reach sys s) (rest : List Nat) (hp : s.phase = .pubSending rest)
    (g : List Nat) (hg : g ∈ s.regs) : g ++ rest = s.log := by
  have := reach_ok s h
  rw [Ok, hp] at this
  exact this g hg

/-- the critical regions exclude each other: no Subscribe step is enabled while a Publish holds the topic mutex -/
theorem subscribe_excluded_during_publish (s : St) (rest : List Nat) (hp : s.phase = .pubSending rest) :
    act s .uLock = none ∧ act s .uReplay = none ∧ act s .uRegister = none := by
  simp [act, hp]

/-! non-vacuity: publish [1,2], subscribe (replay 1,2), publish [3] → the subscription got 1,2,3 exactly once each -/
example : exec sys init [.pLock [1, 2], .pPersist, .pSend, .pSend, .pUnlock, .uLock, .uReplay, .uRegister,
    .pLock [3], .pPersist, .pSend, .pUnlock] = some { log := [1, 2, 3], regs := [[1, 2, 3]], phase := .free } := by decide

end Wm.GcTopic
