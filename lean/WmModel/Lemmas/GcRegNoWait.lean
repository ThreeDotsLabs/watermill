import WmModel.Lemmas.GcRegInv
namespace Wm.GcReg

variable {s s' : St} {a : Action} {i : Nat} {new : Th} {l : List Th} {blocking : Bool}

def NoWaitOn (l : List Th) (blocking : Bool) : Prop :=
  blocking = false → ∀ (i : Nat) (th : Th), l[i]? = some th → isWait th = false

/-- only a blocking Pub/Sub ever waits for acks inside Publish -/
def NoWaitOk (s : St) : Prop := NoWaitOn s.ths s.cfg.blocking

theorem nw_init (cfg : Cfg) : NoWaitOk (init cfg) := by simp [NoWaitOk, NoWaitOn, init]

theorem nw_set (h : NoWaitOn l blocking) (hn : isWait new = false) : NoWaitOn (l.set i new) blocking :=
  fun hb => forall_set (h hb) _ _ hn

theorem nw_append (h : NoWaitOn l blocking) (hn : isWait new = false) : NoWaitOn (l ++ [new]) blocking :=
  fun hb => forall_append (h hb) _ hn

theorem nw_step (h : NoWaitOk s) (hs : Step s a s') : NoWaitOk s' := by
  cases hs with
  | newPub | newPubNested | newSub | newClose => exact nw_append h rfl
  | cancel | senderDone | panic => exact h
  | subTlock i t hth => exact nw_append (nw_set h rfl) rfl
  | thread hth hm =>
    cases hm with
    | pubSendWait hb => exact fun hnb => absurd (hb.symm.trans hnb) nofun
    | _ => exact nw_set h rfl

end Wm.GcReg
