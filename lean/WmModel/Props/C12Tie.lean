/-
  C12 – generated tie: the body of the closure returned by `(Retry).Middleware`, extracted from the current Go
  source (`WmModel/Gen/RetryBody.lean`, rewritten by the extractor on every run) and interpreted by
  `WmModel/GoRetry.lean`, equals the hand-written model `Wm.Retry.retry` for every configuration and every script.
  Proof: the statements before the loop compute; one pass of the loop body is run once for each way the model's pass
  can end (`loop_cases`), with the back-off arithmetic kept abstract; the loop then follows by induction on the fuel.
-/
import WmModel.GoRetry
import WmModel.Gen.RetryBody
import WmModel.Lemmas.Retry
namespace Wm.GoRetry
open Wm.Retry

/-- put what was observed before the loop in front of the loop's run -/
def prepend (as : List Attempt) (hs : List (Nat × Nat)) (r : Run) : Run :=
  { r with attempts := as ++ r.attempts, hooks := hs ++ r.hooks }

theorem prepend_push (as : List Attempt) (hs hk : List (Nat × Nat)) (a : Attempt) (r : Run) :
    prepend (as ++ [a]) (hs ++ hk) r = prepend as hs (r.push a hk) := by
  simp [prepend, Run.push]

/-- the five assignments copy the back-off fields of the configuration -/
theorem wiring (cfg : Cfg) :
    ({ maxRetries := (defaultBo cfg).maxRetries, init := cfg.init, maxInt := cfg.maxInt, mulN := cfg.mulN,
       mulD := cfg.mulD, rfN := cfg.rfN, rfD := cfg.rfD, maxElapsed := cfg.maxElapsed, hook := (defaultBo cfg).hook } : Cfg)
      = cfg := by
  cases cfg; rfl

/-- the statements before the loop, when the first call fails -/
theorem extracted_before (cfg : Cfg) (sc : Script) (e : Nat) (he : sc.first.err = some e) :
    execList cfg sc Gen.before {} = .cont
      { prod := sc.first.outs, err := some e, wait := none, retryNum := 1, bo := some cfg, cur := cfg.init,
        t0 := sc.firstDur + sc.resetLag, now := sc.firstDur + sc.resetLag, pass := 0, calls := 1,
        ctxBound := true, ctxDeadline := decide (cfg.maxElapsed > 0),
        attempts := [⟨0, sc.firstDur, sc.first⟩], hooks := [] } := by
  simp [Gen.before, execList, step, he, setFld]
  exact wiring cfg

/-- **the extracted statements before the loop bind the message's context and wrap it with the MaxElapsedTime deadline** -/
theorem extracted_ctx_deadline (cfg : Cfg) (sc : Script) (e : Nat) (he : sc.first.err = some e) :
    ∃ s, execList cfg sc Gen.before {} = .cont s ∧ s.ctxBound = true ∧ s.ctxDeadline = decide (cfg.maxElapsed > 0) ∧
      s.bo = some cfg := ⟨_, extracted_before cfg sc e he, rfl, rfl, rfl⟩

/-- what holds of the interpreter's state whenever it is at the head of the loop; `e` is the last error -/
structure AtHead (cfg : Cfg) (st : St) (e : Nat) : Prop where
  bo : st.bo = some cfg
  ctx : st.ctxBound = true
  err : st.err = some e
  calls : st.calls ≠ 0
  num : st.retryNum = st.pass + 1

/-- the model's loop state that `st`, at the head of the loop, stands for -/
abbrev headSt (st : St) (e : Nat) : LoopSt := ⟨st.pass + 1, st.cur, st.now, st.prod, e⟩

/-- the state at the end of a pass whose call, started at `t` after waiting `w`, failed; `c` is the next interval.
    Wait, interval and start are parameters, so that nothing has to look inside the arithmetic of the back-off. -/
def sFail (cfg : Cfg) (sc : Script) (st : St) (t w c : Nat) : St :=
  { st with pass := st.pass + 1, now := t + (sc.iter (st.pass + 1)).dur, wait := some w, cur := c,
            prod := (sc.iter (st.pass + 1)).out.outs, err := (sc.iter (st.pass + 1)).out.err, calls := st.calls + 1,
            attempts := st.attempts ++ [⟨t, t + (sc.iter (st.pass + 1)).dur, (sc.iter (st.pass + 1)).out⟩],
            hooks := st.hooks ++ (if cfg.hook then [(st.pass + 1, w)] else []), retryNum := st.pass + 1 + 1 }

theorem atHead_sFail (cfg : Cfg) (sc : Script) (st : St) (e t w c e' : Nat) (h : AtHead cfg st e)
    (ho : (sc.iter (st.pass + 1)).out.err = some e') : AtHead cfg (sFail cfg sc st t w c) e' :=
  ⟨h.bo, h.ctx, ho, Nat.succ_ne_zero _, rfl⟩

section pass
variable (cfg : Cfg) (sc : Script) (st : St) (e : Nat) (h : AtHead cfg st e)
include h

theorem pass_stop (hs : stops cfg (st.now + (sc.iter (st.pass + 1)).lag - st.t0) = true) :
    ∃ s', execList cfg sc Gen.loopBody { st with pass := st.pass + 1 } = .ret s' st.prod (some e) .backoffStop ∧
      s'.attempts = st.attempts ∧ s'.hooks = st.hooks := by
  simp only [Gen.loopBody, execList, step, h.bo, hs, if_true, evalM, evalE, h.err]
  exact ⟨_, rfl, rfl, rfl⟩

variable (hs : stops cfg (st.now + (sc.iter (st.pass + 1)).lag - st.t0) = false)
include hs

theorem pass_ctx (hp : (sc.iter (st.pass + 1)).pick = .ctxDone) :
    ∃ s', execList cfg sc Gen.loopBody { st with pass := st.pass + 1 } = .ret s' st.prod (some e) .ctxDone ∧
      s'.attempts = st.attempts ∧ s'.hooks = st.hooks := by
  simp only [Gen.loopBody, execList, step, h.bo, hs, h.ctx, hp, h.err, evalM, evalE, if_true, if_false,
    Bool.false_eq_true, reduceCtorEq]
  exact ⟨_, rfl, rfl, rfl⟩

variable (w c late : Nat) (hw : randomized cfg st.cur (sc.iter (st.pass + 1)).draw = w) (hc : nextCur cfg st.cur = c)
  (hp : (sc.iter (st.pass + 1)).pick = .timer late)
include hw hc hp

theorem pass_ok (ho : (sc.iter (st.pass + 1)).out.err = none) :
    ∃ s', execList cfg sc Gen.loopBody { st with pass := st.pass + 1 } =
        .ret s' (sc.iter (st.pass + 1)).out.outs none .success ∧
      s'.attempts = st.attempts ++ [⟨st.now + (sc.iter (st.pass + 1)).lag + w + late,
        st.now + (sc.iter (st.pass + 1)).lag + w + late + (sc.iter (st.pass + 1)).dur, (sc.iter (st.pass + 1)).out⟩] ∧
      s'.hooks = st.hooks := by
  simp only [Gen.loopBody, execList, step, h.bo, hs, hw, hc, h.ctx, hp, h.calls, ho, evalM, evalE, evalD, Option.getD_some,
    if_true, if_false, Bool.false_eq_true, reduceCtorEq]
  exact ⟨_, rfl, rfl, rfl⟩

theorem pass_fail (e' : Nat) (ho : (sc.iter (st.pass + 1)).out.err = some e') :
    execList cfg sc Gen.loopBody { st with pass := st.pass + 1 } =
      (if ((st.pass + 1 + 1 : Nat) : Int) > cfg.maxRetries then R.brk else R.cont)
        (sFail cfg sc st (st.now + (sc.iter (st.pass + 1)).lag + w + late) w c) := by
  cases hh : cfg.hook <;> by_cases hm : ((st.pass + 1 + 1 : Nat) : Int) > cfg.maxRetries <;>
  simp only [Gen.loopBody, execList, step, h.bo, hs, hw, hc, h.ctx, hp, h.calls, ho, hh, hm, h.num, evalD, evalI, evalC, sFail,
    Option.getD_some, Int.toNat_natCast, List.append_nil, if_true, if_false, Bool.false_eq_true,
    reduceCtorEq, decide_true, decide_false]

end pass

/-- the extracted loop (and what follows it) is the model's loop -/
theorem extracted_loop (cfg : Cfg) (sc : Script) : ∀ (fuel : Nat) (st : St) (e : Nat), AtHead cfg st e →
    execLoop cfg sc Gen.loopBody Gen.after fuel st =
      some (prepend st.attempts st.hooks (loop cfg sc st.t0 fuel (headSt st e))) := by
  intro fuel
  induction fuel with
  | zero =>
    intro st e h
    simp [execLoop, loop, prepend, runOf, h.err]
  | succ fuel ih =>
    intro st e h
    unfold execLoop
    have hc := loop_cases cfg sc st.t0 fuel (headSt st e)
    generalize hw : randomized cfg st.cur (sc.iter (st.pass + 1)).draw = w at hc
    generalize hcu : nextCur cfg st.cur = c at hc
    cases hc with
    | stop hs hr =>
      obtain ⟨s', hx, ha, hk⟩ := pass_stop cfg sc st e h hs
      rw [hr, hx]
      simp [runOf, prepend, ha, hk]
    | ctx hs hp hr =>
      obtain ⟨s', hx, ha, hk⟩ := pass_ctx cfg sc st e h hs hp
      rw [hr, hx]
      simp [runOf, prepend, ha, hk]
    | ok late hs hp ho hr =>
      obtain ⟨s', hx, ha, hk⟩ := pass_ok cfg sc st e h hs w c late hw hcu hp ho
      rw [hr, hx]
      simp [runOf, prepend, ha, hk, attemptOf, hw]
    | last late e' hs hp ho hm hr =>
      rw [hr, pass_fail cfg sc st e h hs w c late hw hcu hp e' ho, if_pos hm]
      simpa [Gen.after, execList, step, evalM, evalE, runOf, prepend, sFail, attemptOf, hookOf, hw] using ho
    | again late e' hs hp ho hm hr =>
      rw [hr, pass_fail cfg sc st e h hs w c late hw hcu hp e' ho, if_neg (Int.not_lt.mpr hm), ← prepend_push]
      refine (ih _ e' (atHead_sFail cfg sc st e _ w c e' h ho)).trans ?_
      simp [sFail, nextSt, attemptOf, hookOf, hw, hcu]

/-- **what the source says now is the model**: interpreting the extracted body of the closure returned by
    `(Retry).Middleware` gives `retry cfg sc`, for every configuration and every script -/
theorem extracted_retry_eq_model (cfg : Cfg) (sc : Script) :
    execRetry cfg sc Gen.before Gen.loopBody Gen.after = some (retry cfg sc) := by
  unfold execRetry retry
  cases he : sc.first.err with
  | none =>
    simp [Gen.before, execList, step, he, evalM, evalE, runOf]
  | some e =>
    rw [extracted_before cfg sc e he]
    simp only []
    rw [extracted_loop cfg sc (fuelFor cfg) _ e ⟨rfl, rfl, rfl, Nat.succ_ne_zero 0, rfl⟩]
    simp [prepend, Run.push]

end Wm.GoRetry
