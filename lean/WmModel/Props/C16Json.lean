/-
  C16 – stretch: the forwarder envelope round trip WITHOUT a codec hypothesis, for the modelled JSON codec.

  `Json.jsonCodec` = Go's `encoding/json` encoder for the envelope (Lean model, compared byte for byte with the
  real encoder on every run: `jenv` cases) + a decoder for that shape written in Lean.  The theorems below hold for
  every message (any strings, any payload bytes incl. nil/empty, any metadata map incl. nil/empty) and every
  non-empty destination topic.  What remains assumed about the library is only that Go's `json.Unmarshal`
  computes the same inverse (tested: `jdec` and `env` cases).
-/
import WmModel.Props.C16
import WmModel.Lemmas.ValueJson
namespace Wm.Value.Json
open Wm.Value

theorem sortMeta_perm (m : Meta) : (sortMeta m).Perm m := List.mergeSort_perm _ _

theorem noDupKeys_perm {m m' : Meta} (h : m'.Perm m) (hm : NoDupKeys m) : NoDupKeys m' :=
  (h.map Prod.fst).nodup_iff.mpr hm

/-- a Go map has no order: permuting the entries of a duplicate-free association list changes no lookup -/
theorem lookup_perm {m m' : Meta} (h : m'.Perm m) (hm : NoDupKeys m) (k : String) : lookup m' k = lookup m k :=
  (lookup_eq_iff_same_entries m' m (noDupKeys_perm h hm) hm).mpr (fun _ _ => h.mem_iff) k

/-- the JSON codec gives back the envelope with the metadata entries in key order – the same Go map -/
theorem json_round_trips_up_to_order (e : Envelope) :
    jsonCodec.dec (jsonEnvelope e) = some (normalize e) ∧
    (normalize e).dest = e.dest ∧ (normalize e).uuid = e.uuid ∧ (normalize e).payload = e.payload ∧
    (e.metadata = none ↔ (normalize e).metadata = none) ∧
    ∀ m, e.metadata = some m → ∃ m', (normalize e).metadata = some m' ∧ m'.Perm m := by
  refine ⟨json_dec_enc e, rfl, rfl, rfl, ?_, ?_⟩
  · cases h : e.metadata <;> simp [normalize, h]
  · intro m hm
    exact ⟨sortMeta m, by simp [normalize, hm], sortMeta_perm m⟩

/-- **forwarder envelope over JSON, no codec hypothesis**: for every well-formed message and every non-empty
    destination topic, wrapping succeeds and unwrapping returns the destination topic and a message with the same
    UUID, the same payload (nil-ness included) and the same metadata map – a message that `Equals` the original -/
theorem json_envelope_round_trip (u dest : String) (m : Msg) (hm : m.WF) (hd : dest ≠ "") :
    ∃ w m', wrap jsonCodec u dest m = .ok w ∧ unwrap jsonCodec w = .ok (dest, m') ∧
      m'.uuid = m.uuid ∧ m'.payload = m.payload ∧ (∀ k, lookup m'.md k = lookup m.md k) ∧
      (m'.metadata = none ↔ m.metadata = none) ∧ equals m' m = true := by
  let e : Envelope := ⟨dest, m.uuid, m.payload, m.metadata⟩
  have hperm : (Msg.md ⟨m.uuid, m.payload, m.metadata.map sortMeta⟩).Perm m.md := by
    unfold Msg.md
    cases m.metadata with
    | none => exact .refl _
    | some md => exact sortMeta_perm md
  have hlook := lookup_perm hperm hm
  refine ⟨⟨u, some (jsonEnvelope e), some []⟩, ⟨m.uuid, m.payload, m.metadata.map sortMeta⟩,
    wrap_eq_ok.mpr ⟨hd, _, rfl, rfl⟩, ?_, rfl, rfl, hlook, ?_, ?_⟩
  · simp only [unwrap, Msg.bytes, Option.getD_some, json_dec_enc e, normalize, Envelope.valid]
    simp [hd, e]
  · cases m.metadata <;> simp
  · exact (equals_iff _ _ (noDupKeys_perm hperm hm) hm).mpr ⟨rfl, rfl, hlook⟩

/-- non-vacuity: the hypotheses hold for a message with control characters, html characters, non-BMP text, a binary
    payload and unsorted metadata with an empty key -/
example : ∃ w m', wrap jsonCodec "#" "t\n<>&" ⟨"u 😀", some [0, 255, 34], some [("b", "1"), ("", "\\\"")]⟩ = .ok w ∧
    unwrap jsonCodec w = .ok ("t\n<>&", m') ∧ equals m' ⟨"u 😀", some [0, 255, 34], some [("b", "1"), ("", "\\\"")]⟩ = true := by
  obtain ⟨w, m', h1, h2, _, _, _, _, h7⟩ :=
    json_envelope_round_trip "#" "t\n<>&" ⟨"u 😀", some [0, 255, 34], some [("b", "1"), ("", "\\\"")]⟩ (by decide) (by decide)
  exact ⟨w, m', h1, h2, h7⟩

end Wm.Value.Json
