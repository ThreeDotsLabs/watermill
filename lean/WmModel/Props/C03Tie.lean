/-
  C03 – generated tie: the bodies of Ack/Nack extracted from the current Go source, interpreted,
  equal the hand-written model on all 27 states, and both bodies start by taking the mutex.
  `WmModel/Gen/AckBody.lean` is rewritten by the extractor on every run.
  Proofs split the input where the interpreter consults it; then both sides compute (`rfl`).
-/
import WmModel.GoAck
import WmModel.Gen.AckBody
namespace Wm.GoAck
open Wm.Ack

theorem extracted_ack_eq_model : ∀ s : St, exec Gen.ackBody s = some (Ack.ack s) := by
  intro s; rcases s with ⟨a, b, c⟩
  cases a <;> cases b <;> cases c <;> rfl

theorem extracted_nack_eq_model : ∀ s : St, exec Gen.nackBody s = some (Ack.nack s) := by
  intro s; rcases s with ⟨a, b, c⟩
  cases a <;> cases b <;> cases c <;> rfl

theorem extracted_bodies_locked : locked Gen.ackBody = true ∧ locked Gen.nackBody = true := by
  constructor <;> rfl

end Wm.GoAck
