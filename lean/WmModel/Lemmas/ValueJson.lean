/-
  The decoder of `WmModel/ValueJson.lean` inverts the (Go-conformant) JSON encoder of the forwarder envelope,
  up to the order of the metadata entries.  Pieces: literal prefixes, string escaping, base64, objects.
-/
import WmModel.ValueJson
import WmModel.Lemmas.Value
namespace Wm.Value.Json

/-! ### literal prefixes -/

theorem expect_append (l r : Text) : expect l (l ++ r) = some r := by
  induction l with
  | nil => simp [expect]
  | cons c cs ih => simp [expect, ih]

theorem expect_head_ne {c d : Char} (h : c ≠ d) (cs r : Text) : expect (c :: cs) (d :: r) = none := by
  simp [expect, h]

/-! ### hex digits -/

theorem hexVal_hexLower : ∀ n, n < 16 → hexVal? (hexLower n) = some n := by decide

/-! ### string escaping -/

theorem char_eq_of_toNat {c : Char} {n : Nat} (h : c.toNat = n) : c = Char.ofNat n := by
  rw [← h, Char.ofNat_toNat]

/-- the three ways `unescF` reads one character: written as itself, as a short escape, as `\uXXXX` -/
theorem unescF_plain1 {c : Char} (hq : c ≠ '"') (hb : c ≠ '\\') (f : Nat) (rest : Text) :
    unescF (f + 1) (c :: rest) = (unescF f rest).map fun (p : List Char × Text) => (c :: p.1, p.2) := by
  simp only [unescF, hq, hb, ↓reduceIte]

theorem unescF_short {e ch : Char} (he : shortEsc? e = some ch) (hu : e ≠ 'u') (f : Nat) (rest : Text) :
    unescF (f + 1) ('\\' :: e :: rest) = (unescF f rest).map fun (p : List Char × Text) => (ch :: p.1, p.2) := by
  have hq : ('\\' : Char) ≠ '"' := by decide
  simp only [unescF, hq, hu, he, ↓reduceIte]

theorem unescF_hex {a b c d : Char} {x y z w : Nat} (ha : hexVal? a = some x) (hb : hexVal? b = some y)
    (hc : hexVal? c = some z) (hd : hexVal? d = some w) (f : Nat) (rest : Text) :
    unescF (f + 1) ('\\' :: 'u' :: a :: b :: c :: d :: rest) =
      (unescF f rest).map fun (p : List Char × Text) => (Char.ofNat (x * 4096 + y * 256 + z * 16 + w) :: p.1, p.2) := by
  have hq : ('\\' : Char) ≠ '"' := by decide
  simp only [unescF, hq, ha, hb, hc, hd, ↓reduceIte]

/-- `\u00XX` for a character below 256, `\u202X` for one in that row -/
theorem unescF_hex00 {n : Nat} (h : n < 256) (f : Nat) (rest : Text) :
    unescF (f + 1) (['\\', 'u', '0', '0', hexLower (n / 16), hexLower (n % 16)] ++ rest) =
      (unescF f rest).map fun (p : List Char × Text) => (Char.ofNat n :: p.1, p.2) := by
  have h0 : hexVal? '0' = some 0 := by decide
  have hv : 0 * 4096 + 0 * 256 + n / 16 * 16 + n % 16 = n := by omega
  have := unescF_hex h0 h0 (hexVal_hexLower (n / 16) (by omega)) (hexVal_hexLower (n % 16) (by omega)) f rest
  rwa [hv] at this

theorem unescF_hex202 {n : Nat} (h : n / 16 = 0x202) (f : Nat) (rest : Text) :
    unescF (f + 1) (['\\', 'u', '2', '0', '2', hexLower (n % 16)] ++ rest) =
      (unescF f rest).map fun (p : List Char × Text) => (Char.ofNat n :: p.1, p.2) := by
  have h0 : hexVal? '0' = some 0 := by decide
  have h2 : hexVal? '2' = some 2 := by decide
  have hv : 2 * 4096 + 0 * 256 + 2 * 16 + n % 16 = n := by omega
  have := unescF_hex h2 h0 h2 (hexVal_hexLower (n % 16) (by omega)) f rest
  rwa [hv] at this

/-- decoding what `escChar` wrote gives the character back (one step of the string decoder) -/
theorem unescF_escChar (c : Char) (f : Nat) (rest : Text) :
    unescF (f + 1) (escChar c ++ rest) = (unescF f rest).map fun (p : List Char × Text) => (c :: p.1, p.2) := by
  simp only [escChar]
  generalize hn : c.toNat = n
  -- one link of the chain of short escapes: taken when `n = k`, and then read back as the character `k`
  have short : ∀ (k : Nat) (e : Char) (t : Text), shortEsc? e = some (Char.ofNat k) → e ≠ 'u' →
      (n ≠ k → unescF (f + 1) (t ++ rest) = (unescF f rest).map fun (p : List Char × Text) => (c :: p.1, p.2)) →
      unescF (f + 1) ((if n = k then ['\\', e] else t) ++ rest) =
        (unescF f rest).map fun (p : List Char × Text) => (c :: p.1, p.2) := by
    intro k e t he hu ht
    by_cases h : n = k
    · rw [if_pos h, char_eq_of_toNat (hn.trans h)]
      exact unescF_short he hu f rest
    · rw [if_neg h]
      exact ht h
  refine short 0x22 '"' _ (by decide) (by decide) fun h1 => ?_
  refine short 0x5c '\\' _ (by decide) (by decide) fun h2 => ?_
  refine short 8 'b' _ (by decide) (by decide) fun _ => ?_
  refine short 12 'f' _ (by decide) (by decide) fun _ => ?_
  refine short 10 'n' _ (by decide) (by decide) fun _ => ?_
  refine short 13 'r' _ (by decide) (by decide) fun _ => ?_
  refine short 9 't' _ (by decide) (by decide) fun _ => ?_
  by_cases h : n < 0x20 ∨ n = 0x3c ∨ n = 0x3e ∨ n = 0x26
  · rw [if_pos h, ← Char.ofNat_toNat c, hn]
    exact unescF_hex00 (by omega) f rest
  rw [if_neg h]
  by_cases h : n = 0x2028 ∨ n = 0x2029
  · rw [if_pos h, ← Char.ofNat_toNat c, hn]
    exact unescF_hex202 (by omega) f rest
  rw [if_neg h]
  exact unescF_plain1 (fun e => h1 (by rw [← hn, e]; rfl)) (fun e => h2 (by rw [← hn, e]; rfl)) f rest

theorem length_ite_pos {α : Type} {p : Prop} [Decidable p] {a b : List α} (ha : 0 < a.length) (hb : 0 < b.length) :
    0 < (if p then a else b).length := by
  split <;> assumption

theorem escChar_length_pos (c : Char) : 0 < (escChar c).length := by
  simp only [escChar]
  iterate 9 refine length_ite_pos (Nat.succ_pos _) ?_
  exact Nat.succ_pos _

theorem escString_length_ge (cs : List Char) : cs.length ≤ (escString cs).length := by
  induction cs with
  | nil => simp [escString]
  | cons c cs ih =>
    have := escChar_length_pos c
    simp only [escString, List.length_cons, List.length_append]
    omega

theorem unescF_escString (cs : List Char) (rest : Text) (f : Nat) (hf : cs.length + 1 ≤ f) :
    unescF f (escString cs ++ '"' :: rest) = some (cs, rest) := by
  induction cs generalizing f with
  | nil =>
    cases f with
    | zero => omega
    | succ f => simp [escString, unescF]
  | cons c cs ih =>
    cases f with
    | zero => omega
    | succ f =>
      simp only [escString, List.append_assoc]
      rw [unescF_escChar, ih f (by simpa using hf)]
      rfl

theorem parseChars_jsonString (s : String) (rest : Text) :
    parseChars (jsonString s ++ rest) = some (s.toList, rest) := by
  simp only [jsonString, List.cons_append, List.append_assoc, List.nil_append, parseChars, ↓reduceIte]
  apply unescF_escString
  have := escString_length_ge s.toList
  simp only [List.length_append, List.length_cons]
  omega

/-- **strings**: the decoder reads back exactly the string the encoder wrote, whatever follows -/
theorem parseString_jsonString (s : String) (rest : Text) :
    parseString (jsonString s ++ rest) = some (s, rest) := by
  simp [parseString, parseChars_jsonString, String.ofList_toList]

/-- characters that need no escaping pass through the string decoder unchanged -/
theorem unescF_plain (cs : List Char) (rest : Text) (f : Nat) (hf : cs.length + 1 ≤ f)
    (hp : ∀ c ∈ cs, c ≠ '"' ∧ c ≠ '\\') : unescF f (cs ++ '"' :: rest) = some (cs, rest) := by
  induction cs generalizing f with
  | nil =>
    cases f with
    | zero => omega
    | succ f => simp [unescF]
  | cons c cs ih =>
    cases f with
    | zero => omega
    | succ f =>
      have hc := hp c (List.mem_cons_self ..)
      rw [List.cons_append, unescF_plain1 hc.1 hc.2, ih f (by simpa using hf) fun d hd => hp d (List.mem_cons_of_mem _ hd)]
      rfl

/-! ### base64 -/

theorem b64Val_b64Char : ∀ n, n < 64 → b64Val? (b64Char n) = some n := by decide

/-- a character that is no base64 digit (the padding, a quote, a backslash) is not what a digit is written as -/
theorem b64Char_ne {n : Nat} (hn : n < 64) {c : Char} (hc : b64Val? c = none) : b64Char n ≠ c := by
  intro e
  have := b64Val_b64Char n hn
  rw [e, hc] at this
  cases this

theorem b64Char_plain (n : Nat) : b64Char n ≠ '"' ∧ b64Char n ≠ '\\' := by
  rcases Nat.lt_or_ge n 64 with h | h
  · exact ⟨b64Char_ne h (by decide), b64Char_ne h (by decide)⟩
  · have : b64Char n = '/' := by
      unfold b64Char
      rw [if_neg (by omega), if_neg (by omega), if_neg (by omega), if_neg (by omega)]
    rw [this]
    decide

theorem base64_plain (b : Bytes) : ∀ c ∈ base64 b, c ≠ '"' ∧ c ≠ '\\' := by
  have pad : ('=' : Char) ≠ '"' ∧ ('=' : Char) ≠ '\\' := by decide
  fun_induction base64 b with
  | case1 a b c rest n ih =>
    simp only [List.forall_mem_cons]
    exact ⟨b64Char_plain _, b64Char_plain _, b64Char_plain _, b64Char_plain _, ih⟩
  | case2 a b n =>
    simp only [List.forall_mem_cons]
    exact ⟨b64Char_plain _, b64Char_plain _, b64Char_plain _, pad, nofun⟩
  | case3 a n =>
    simp only [List.forall_mem_cons]
    exact ⟨b64Char_plain _, b64Char_plain _, pad, pad, nofun⟩
  | case4 => nofun

/-- What `unb64` reads from four digits, and from the two padded forms of a last group.  About digit variables:
with the encoder's `n / 262144` … in their place `simp` spends its time comparing numerals. -/
theorem unb64_digits {d1 d2 d3 d4 : Nat} (h1 : d1 < 64) (h2 : d2 < 64) (h3 : d3 < 64) (h4 : d4 < 64) (rest : Text) :
    unb64 (b64Char d1 :: b64Char d2 :: b64Char d3 :: b64Char d4 :: rest) = (unb64 rest).map fun bs =>
      let m := d1 * 262144 + d2 * 4096 + d3 * 64 + d4
      UInt8.ofNat (m / 65536) :: UInt8.ofNat (m / 256 % 256) :: UInt8.ofNat (m % 256) :: bs := by
  simp only [unb64, b64Val_b64Char, b64Char_ne h4 (by decide : b64Val? '=' = none), h1, h2, h3, h4, ↓reduceIte]

theorem unb64_pad1 {d1 d2 d3 : Nat} (h1 : d1 < 64) (h2 : d2 < 64) (h3 : d3 < 64) :
    unb64 [b64Char d1, b64Char d2, b64Char d3, '='] =
      let m := d1 * 262144 + d2 * 4096 + d3 * 64
      some [UInt8.ofNat (m / 65536), UInt8.ofNat (m / 256 % 256)] := by
  simp [unb64, b64Val_b64Char, b64Char_ne h3 (by decide : b64Val? '=' = none), h1, h2, h3]

theorem unb64_pad2 {d1 d2 : Nat} (h1 : d1 < 64) (h2 : d2 < 64) :
    unb64 [b64Char d1, b64Char d2, '=', '='] = some [UInt8.ofNat ((d1 * 262144 + d2 * 4096) / 65536)] := by
  simp [unb64, b64Val_b64Char, h1, h2]

/-- a number is the sum of its base-64 digits (the top one unbounded) -/
theorem digits_sum (n : Nat) : n / 262144 * 262144 + n / 4096 % 64 * 4096 + n / 64 % 64 * 64 + n % 64 = n := by
  -- `omega` is much quicker on repeated division by 64 than on division by its powers
  rw [show n / 262144 = n / 64 / 64 / 64 by rw [Nat.div_div_eq_div_mul, Nat.div_div_eq_div_mul],
    show n / 4096 = n / 64 / 64 by rw [Nat.div_div_eq_div_mul]]
  omega

/-- The group `n` of three bytes `a b c` gives them back by division; its top digit is below 64, and zero bytes at
the end leave zero digits at the end (the padded forms). -/
theorem group_bytes {a b c n : Nat} (ha : a < 256) (hb : b < 256) (hc : c < 256) (hn : a * 65536 + b * 256 + c = n) :
    n / 262144 < 64 ∧ n / 65536 = a ∧ n / 256 % 256 = b ∧ n % 256 = c ∧
      (c = 0 → n % 64 = 0) ∧ (b = 0 → c = 0 → n / 64 % 64 * 64 = 0) := by
  omega

theorem eq_of_add_zero {x y n : Nat} (h : x + y = n) (hy : y = 0) : x = n := by
  subst hy
  exact h

/-- **base64**: decoding inverts encoding on every byte string -/
theorem unb64_base64 (bs : Bytes) : unb64 (base64 bs) = some bs := by
  have h64 : 0 < 64 := by decide
  fun_induction base64 bs with
  | case1 a b c rest n ih =>
    obtain ⟨h1, ha, hb, hc, _⟩ := group_bytes (n := n) a.toNat_lt b.toNat_lt c.toNat_lt rfl
    rw [unb64_digits h1 (Nat.mod_lt _ h64) (Nat.mod_lt _ h64) (Nat.mod_lt _ h64), ih]
    simp only [digits_sum, ha, hb, hc, UInt8.ofNat_toNat, Option.map_some]
  | case2 a b n =>
    obtain ⟨h1, ha, hb, _, h0, _⟩ := group_bytes a.toNat_lt b.toNat_lt (Nat.zero_lt_succ _) (Nat.add_zero n)
    rw [unb64_pad1 h1 (Nat.mod_lt _ h64) (Nat.mod_lt _ h64)]
    simp only [eq_of_add_zero (digits_sum n) (h0 rfl), ha, hb, UInt8.ofNat_toNat]
  | case3 a n =>
    obtain ⟨h1, ha, _, _, h0, h0'⟩ := group_bytes (b := 0) (c := 0) (n := n) a.toNat_lt (Nat.zero_lt_succ _)
      (Nat.zero_lt_succ _) (by rw [Nat.zero_mul, Nat.add_zero])
    rw [unb64_pad2 h1 (Nat.mod_lt _ h64)]
    simp only [eq_of_add_zero (eq_of_add_zero (digits_sum n) (h0 rfl)) (h0' rfl rfl), ha, UInt8.ofNat_toNat]
  | case4 => rfl

/-- **payload**: `null` ↦ nil, a base64 string ↦ its bytes (the empty string ↦ the empty, non-nil slice) -/
theorem parseBytes_jsonBytes (p : Option Bytes) (rest : Text) :
    parseBytes (jsonBytes p ++ rest) = some (p, rest) := by
  cases p with
  | none => simp [parseBytes, jsonBytes, expect_append]
  | some b =>
    have hne : expect nullText ('"' :: (base64 b ++ '"' :: rest)) = none := by
      simp only [nullText]
      exact expect_head_ne (by decide) _ _
    have hch : parseChars ('"' :: (base64 b ++ '"' :: rest)) = some (base64 b, rest) := by
      simp only [parseChars, ↓reduceIte]
      apply unescF_plain _ _ _ _ (base64_plain b)
      simp only [List.length_append, List.length_cons]
      omega
    simp only [parseBytes, jsonBytes, List.cons_append, List.append_assoc, List.nil_append, hne, hch, unb64_base64,
      Option.map_some]

/-! ### objects -/

theorem jsonEntries_head {es : Meta} (hne : es ≠ []) : ∃ t, jsonEntries es = '"' :: t := by
  match es, hne with
  | [(k, v)], _ => exact ⟨_, by simp [jsonEntries, jsonEntry, jsonString]; rfl⟩
  | (k, v) :: e :: r, _ => exact ⟨_, by simp [jsonEntries, jsonEntry, jsonString]; rfl⟩

theorem parseEntriesF_jsonEntries (es : Meta) (hne : es ≠ []) (rest : Text) (f : Nat) (hf : es.length ≤ f) :
    parseEntriesF f (jsonEntries es ++ '}' :: rest) = some (es, rest) := by
  fun_induction jsonEntries es generalizing f with
  | case1 => exact absurd rfl hne
  | case2 k v =>
    cases f with
    | zero => simp at hf
    | succ f => simp [parseEntriesF, jsonEntry, List.append_assoc, parseString_jsonString, expect]
  | case3 k v rest' hnot ih =>
    cases f with
    | zero => simp at hf
    | succ f =>
      have hne' : rest' ≠ [] := fun h => hnot (h ▸ rfl)
      simp [parseEntriesF, jsonEntry, List.append_assoc, parseString_jsonString, expect, ih hne' f (by simpa using hf)]

theorem jsonEntries_length_ge (es : Meta) : es.length ≤ (jsonEntries es).length + 1 := by
  fun_induction jsonEntries es with
  | case1 => simp
  | case2 k v => simp
  | case3 k v rest' hnot ih =>
    simp only [List.length_cons, List.length_append]
    omega

/-- **metadata**: `null` ↦ nil map, an object ↦ its entries in the order written (the encoder writes them sorted) -/
theorem parseMap_jsonMap (m : Option Meta) (rest : Text) :
    parseMap (jsonMap m ++ rest) = some (m.map sortMeta, rest) := by
  cases m with
  | none => simp [parseMap, jsonMap, expect_append]
  | some m =>
    have hnull : ∀ t, expect nullText ('{' :: t) = none := by
      intro t; simp only [nullText]; exact expect_head_ne (by decide) _ _
    by_cases hes : sortMeta m = []
    · simp [parseMap, jsonMap, hes, jsonEntries, hnull]
    · obtain ⟨t, ht⟩ := jsonEntries_head hes
      have hq : ('"' : Char) ≠ '}' := by decide
      have hlen := jsonEntries_length_ge (sortMeta m)
      have hpar := parseEntriesF_jsonEntries (sortMeta m) hes rest ((t ++ '}' :: rest).length + 2) (by
        rw [ht] at hlen
        simp only [List.length_append, List.length_cons] at hlen ⊢
        omega)
      rw [ht] at hpar
      simp only [List.cons_append, List.length_append, List.length_cons] at hpar
      simp only [parseMap, jsonMap, ht, List.cons_append, List.append_assoc, List.nil_append, hnull, ↓reduceIte, hq]
      simp [hpar]

/-! ### the envelope -/

/-- **text level**: decoding the JSON text of an envelope gives the envelope back, metadata entries in key order -/
theorem decodeText_envelopeText (e : Envelope) : decodeText (envelopeText e) = some (normalize e) := by
  simp only [decodeText, envelopeText, expect_append, parseString_jsonString, parseBytes_jsonBytes, parseMap_jsonMap]
  rfl

theorem fromUTF8_toUTF8 (s : String) : String.fromUTF8? s.toUTF8 = some s := by
  simp [String.fromUTF8?, s.isValidUTF8]
  rfl

theorem mk_data_toList (b : ByteArray) : ByteArray.mk b.data.toList.toArray = b := by simp

theorem ofBytes_toBytes (t : Text) : ofBytes (toBytes t) = some t := by
  unfold ofBytes toBytes
  rw [mk_data_toList, fromUTF8_toUTF8]
  simp

/-- **byte level**: the JSON codec decodes what it encoded, for every envelope (any strings, any bytes, any map) -/
theorem json_dec_enc (e : Envelope) : jsonCodec.dec (jsonEnvelope e) = some (normalize e) := by
  simp [jsonCodec, jsonEnvelope, ofBytes_toBytes, decodeText_envelopeText]

end Wm.Value.Json
