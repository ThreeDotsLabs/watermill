/-
  Helper lemmas for C16: addressing in the heap model (`write`, `alloc`, `copy`, `setMany`),
  and the invariants `WF` (references point to allocated stores) and `Maps` (stores have no duplicate keys), which
  every operation of `step` keeps.
-/
import WmModel.Value
import WmModel.Lemmas.Value
namespace Wm.Value
namespace Heap

@[simp] theorem write_objs (h : Heap) (a : Nat) (k v : String) : (h.write a k v).objs = h.objs := rfl

@[simp] theorem write_stores_length (h : Heap) (a : Nat) (k v : String) :
    (h.write a k v).stores.length = h.stores.length := by simp [write]

theorem store_eq (h : Heap) (a : Nat) : h.store a = (h.stores[a]?).getD [] := by
  simp [store]

theorem store_write_ne (h : Heap) {a b : Nat} (hab : a ≠ b) (k v : String) :
    (h.write a k v).store b = h.store b := by
  simp [store_eq, write, hab]

theorem store_write_same (h : Heap) {a : Nat} (ha : a < h.stores.length) (k v : String) :
    (h.write a k v).store a = set (h.store a) k v := by
  simp [store_eq, write, ha]

/-- the reference held by object `i`, if the object exists and its map is not nil -/
def refOf (h : Heap) (i : Nat) : Option Nat := (h.objs[i]?).bind (·.ref)

theorem view_congr {g h : Heap} {x : Nat} (ho : g.objs[x]? = h.objs[x]?)
    (hs : ∀ a, h.refOf x = some a → g.store a = h.store a) : g.view x = h.view x := by
  unfold view
  rw [ho]
  cases hx : h.objs[x]? with
  | none => rfl
  | some o =>
    simp only [Option.map_some]
    cases hr : o.ref with
    | none => simp
    | some a =>
      have : h.refOf x = some a := by simp [refOf, hx, hr]
      simp [hs a this]

theorem view_write_of_ref_ne (h : Heap) {a x : Nat} (hne : h.refOf x ≠ some a) (k v : String) :
    (h.write a k v).view x = h.view x := by
  apply view_congr (by simp)
  intro b hb
  apply store_write_ne
  intro e; subst e; exact hne hb

theorem view_lt {h : Heap} {i : Nat} {m : Msg} (hv : h.view i = some m) : i < h.objs.length := by
  obtain ⟨o, ho, _⟩ := Option.map_eq_some_iff.mp hv
  exact (List.getElem?_eq_some_iff.mp ho).1

/-- `Set` through an object that holds a map is a write at the address it refers to -/
theorem setMeta_of_refOf {h : Heap} {j a : Nat} (hj : h.refOf j = some a) (k v : String) :
    h.setMeta j k v = .ok (h.write a k v) := by
  unfold refOf at hj
  unfold setMeta
  cases ho : h.objs[j]? with
  | none => simp [ho] at hj
  | some o => rw [ho, Option.bind_some] at hj; simp only [hj]

/-- a series of writes through object `j`: writes at its address as long as it has one -/
theorem setMany_cons (h : Heap) (j : Nat) (k v : String) (ws : List (String × String)) :
    h.setMany j ((k, v) :: ws) = match h.refOf j with
      | some a => (h.write a k v).setMany j ws
      | none => h := by
  rw [setMany]
  unfold setMeta refOf
  cases h.objs[j]? with
  | none => rfl
  | some o => cases hr : o.ref <;> simp only [Option.bind_some, hr]

/-- writes through an object are invisible through every object holding a different reference -/
theorem setMany_view_of_ref_ne (h : Heap) (j x : Nat) (ws : List (String × String))
    (hne : ∀ a, h.refOf j = some a → h.refOf x ≠ some a) : (h.setMany j ws).view x = h.view x := by
  induction ws generalizing h with
  | nil => rfl
  | cons w rest ih =>
    rw [setMany_cons]
    cases href : h.refOf j with
    | none => rfl
    | some a => exact (ih (h.write a w.1 w.2) hne).trans (view_write_of_ref_ne h (hne a href) w.1 w.2)

/-- … and they do not change which objects exist or what they refer to -/
theorem setMany_objs (h : Heap) (j : Nat) (ws : List (String × String)) : (h.setMany j ws).objs = h.objs := by
  induction ws generalizing h with
  | nil => rfl
  | cons w rest ih =>
    rw [setMany_cons]
    cases h.refOf j with
    | none => rfl
    | some a => exact ih (h.write a w.1 w.2)

/-! ### a run of writes at one address -/

def writeAll (h : Heap) (a : Nat) (es : List (String × String)) : Heap :=
  es.foldl (fun hh kv => hh.write a kv.1 kv.2) h

/-- what every write at `a` keeps, a run of writes at `a` keeps -/
theorem writeAll_keeps {P : Heap → Prop} {a : Nat} (hP : ∀ g k v, P g → P (g.write a k v)) (es : List (String × String))
    {h : Heap} (h0 : P h) : P (h.writeAll a es) := by
  induction es generalizing h with
  | nil => exact h0
  | cons e r ih => exact ih (hP h e.1 e.2 h0)

@[simp] theorem writeAll_objs (h : Heap) (a : Nat) (es) : (h.writeAll a es).objs = h.objs :=
  writeAll_keeps (P := fun g => g.objs = h.objs) (fun _ _ _ hg => hg) es rfl

@[simp] theorem writeAll_stores_length (h : Heap) (a : Nat) (es) :
    (h.writeAll a es).stores.length = h.stores.length :=
  writeAll_keeps (P := fun g => g.stores.length = h.stores.length)
    (fun g k v hg => (write_stores_length g a k v).trans hg) es rfl

theorem store_writeAll_ne (h : Heap) {a b : Nat} (hab : a ≠ b) (es) : (h.writeAll a es).store b = h.store b :=
  writeAll_keeps (P := fun g => g.store b = h.store b) (fun g k v hg => (store_write_ne g hab k v).trans hg) es rfl

theorem store_writeAll_same (h : Heap) {a : Nat} (ha : a < h.stores.length) (es) :
    (h.writeAll a es).store a = setAll (h.store a) es := by
  induction es generalizing h with
  | nil => rfl
  | cons e r ih =>
    simp only [writeAll, List.foldl_cons, setAll] at ih ⊢
    rw [ih (h.write a e.1 e.2) (by simpa using ha), store_write_same h ha]

/-! ### alloc and copy -/

theorem alloc_objs (h : Heap) (u p) : (h.alloc u p).objs = h.objs ++ [⟨u, p, some h.stores.length⟩] := rfl

theorem store_of_ge (h : Heap) {a : Nat} (ha : h.stores.length ≤ a) : h.store a = [] := by
  rw [store_eq, List.getElem?_eq_none ha]
  rfl

/-- allocation does not change what any address reads as (a fresh address read as empty before, too) -/
theorem store_alloc (h : Heap) (u : String) (p : Option Bytes) (a : Nat) : (h.alloc u p).store a = h.store a := by
  rcases Nat.lt_or_ge a h.stores.length with ha | ha
  · simp [store_eq, alloc, List.getElem?_append_left ha]
  · rw [store_of_ge h ha, store_eq]
    show ((h.stores ++ [[]])[a]?).getD [] = []
    rw [List.getElem?_append_right ha]
    cases a - h.stores.length <;> rfl

/-- `copy` is an allocation followed by a run of writes at the fresh address -/
theorem copy_eq {h h' : Heap} {i : Nat} : h.copy i = some h' ↔
    ∃ m, h.view i = some m ∧ h' = (h.alloc m.uuid m.payload).writeAll h.stores.length m.md := by
  unfold copy
  cases h.view i <;> simp [writeAll, eq_comm]

/-- everything `copy` does, in one statement -/
theorem copy_spec {h h' : Heap} {i : Nat} (hc : h.copy i = some h') :
    ∃ m, h.view i = some m ∧
      h'.objs = h.objs ++ [⟨m.uuid, m.payload, some h.stores.length⟩] ∧
      h'.stores.length = h.stores.length + 1 ∧
      (∀ b, b < h.stores.length → h'.store b = h.store b) ∧
      h'.store h.stores.length = setAll [] m.md := by
  obtain ⟨m, hv, rfl⟩ := copy_eq.mp hc
  refine ⟨m, hv, ?_, ?_, ?_, ?_⟩
  · rw [writeAll_objs]; rfl
  · rw [writeAll_stores_length]; simp [alloc]
  · intro b hb
    rw [store_writeAll_ne _ (by omega), store_alloc]
  · rw [store_writeAll_same _ (by simp [alloc]), store_alloc, store_of_ge h (Nat.le_refl _)]

/-! ### invariants -/

theorem wf_empty : Heap.empty.WF := by intro o ho; simp [empty] at ho
theorem maps_empty : Heap.empty.Maps := by intro s hs; simp [empty] at hs

theorem refOf_lt_of_wf {h : Heap} (hw : h.WF) {x a : Nat} (hx : h.refOf x = some a) : a < h.stores.length := by
  unfold refOf at hx
  cases ho : h.objs[x]? with
  | none => simp [ho] at hx
  | some o =>
    simp [ho] at hx
    exact hw o (List.mem_of_getElem? ho) a hx

theorem wf_of_objs_stores {g h : Heap} (hw : h.WF) (ho : g.objs = h.objs) (hl : g.stores.length = h.stores.length) : g.WF := by
  intro o hmem a ha
  rw [ho] at hmem; rw [hl]; exact hw o hmem a ha

theorem wf_write {h : Heap} (hw : h.WF) (a k v) : (h.write a k v).WF :=
  wf_of_objs_stores hw rfl (by simp)

/-- what an address reads as is a map (an address that is not allocated reads as the empty one) -/
theorem maps_store {h : Heap} (hm : h.Maps) (a : Nat) : NoDupKeys (h.store a) := by
  rw [store_eq]
  cases hs : h.stores[a]? with
  | none => exact noDupKeys_nil
  | some s => exact hm s (List.mem_of_getElem? hs)

theorem maps_write {h : Heap} (hm : h.Maps) (a k v) : (h.write a k v).Maps := by
  intro s hs
  rcases List.mem_or_eq_of_mem_set hs with h1 | rfl
  · exact hm s h1
  · exact set_noDup (maps_store hm a) k v

theorem wf_alloc {h : Heap} (hw : h.WF) (u p) : (h.alloc u p).WF := by
  intro o hmem a ha
  simp only [alloc, List.mem_append, List.mem_singleton, List.length_append, List.length_cons, List.length_nil] at hmem ⊢
  rcases hmem with h1 | h1
  · have := hw o h1 a ha; omega
  · subst h1; simp at ha; omega

theorem maps_alloc {h : Heap} (hm : h.Maps) (u p) : (h.alloc u p).Maps := by
  intro s hs
  simp only [alloc, List.mem_append, List.mem_singleton] at hs
  rcases hs with h1 | h1
  · exact hm s h1
  · subst h1; exact noDupKeys_nil

theorem wf_writeAll {h : Heap} (hw : h.WF) (a es) : (h.writeAll a es).WF :=
  writeAll_keeps (P := WF) (fun _ k v hg => wf_write hg a k v) es hw

theorem maps_writeAll {h : Heap} (hm : h.Maps) (a es) : (h.writeAll a es).Maps :=
  writeAll_keeps (P := Maps) (fun _ k v hg => maps_write hg a k v) es hm

theorem wf_copy {h h' : Heap} {i : Nat} (hw : h.WF) (hc : h.copy i = some h') : h'.WF := by
  obtain ⟨m, _, rfl⟩ := copy_eq.mp hc
  exact wf_writeAll (wf_alloc hw _ _) _ _

theorem maps_copy {h h' : Heap} {i : Nat} (hm : h.Maps) (hc : h.copy i = some h') : h'.Maps := by
  obtain ⟨m, _, rfl⟩ := copy_eq.mp hc
  exact maps_writeAll (maps_alloc hm _ _) _ _

theorem wf_lit {h : Heap} (hw : h.WF) (u p) : (h.lit u p).WF := by
  intro o hmem a ha
  simp only [lit, List.mem_append, List.mem_singleton] at hmem ⊢
  rcases hmem with h1 | h1
  · exact hw o h1 a ha
  · subst h1; simp at ha

theorem wf_alias {h h' : Heap} {i : Nat} (hw : h.WF) (hc : h.alias i = some h') : h'.WF := by
  obtain ⟨o, ho, rfl⟩ := Option.map_eq_some_iff.mp hc
  intro o' hmem a ha
  rcases List.mem_append.mp hmem with h1 | h1
  · exact hw o' h1 a ha
  · cases List.mem_singleton.mp h1
    exact hw o (List.mem_of_getElem? ho) a ha

theorem wf_setObj {h : Heap} (hw : h.WF) {i : Nat} {o o' : Obj} (ho : h.objs[i]? = some o) (hr : o'.ref = o.ref) :
    ({ h with objs := h.objs.set i o' } : Heap).WF := by
  intro x hmem a ha
  rcases List.mem_or_eq_of_mem_set hmem with h1 | h1
  · exact hw x h1 a ha
  · subst h1; rw [hr] at ha; exact hw o (List.mem_of_getElem? ho) a ha

/-- the view of a well-formed heap with maps is a well-formed message -/
theorem view_wf {h : Heap} (hm : h.Maps) {i : Nat} {m : Msg} (hv : h.view i = some m) : m.WF := by
  obtain ⟨o, _, rfl⟩ := Option.map_eq_some_iff.mp hv
  unfold Msg.WF Msg.md
  cases o.ref with
  | none => exact noDupKeys_nil
  | some a => exact maps_store hm a

end Heap

theorem step_invariants (h : Heap) (o : Op) (hw : h.WF) (hm : h.Maps) : (step h o).1.WF ∧ (step h o).1.Maps := by
  cases o with
  | new u p => exact ⟨Heap.wf_alloc hw u p, Heap.maps_alloc hm u p⟩
  | lit u p => exact ⟨Heap.wf_lit hw u p, hm⟩
  | copy i =>
    simp only [step]
    cases hc : h.copy i with
    | none => exact ⟨hw, hm⟩
    | some h' =>
      simp only
      split <;> exact ⟨Heap.wf_copy hw hc, Heap.maps_copy hm hc⟩
  | alias i =>
    simp only [step]
    cases hc : h.alias i with
    | none => exact ⟨hw, hm⟩
    | some h' =>
      obtain ⟨o, _, rfl⟩ := Option.map_eq_some_iff.mp hc
      exact ⟨Heap.wf_alias hw hc, hm⟩
  | set i k v =>
    simp only [step, Heap.setMeta]
    cases ho : h.objs[i]? with
    | none => exact ⟨hw, hm⟩
    | some o =>
      cases hr : o.ref with
      | none => simp only [hr]; exact ⟨hw, hm⟩
      | some a => simp only [hr]; exact ⟨Heap.wf_write hw a k v, Heap.maps_write hm a k v⟩
  | get i k | equals i j => simp only [step]; split <;> exact ⟨hw, hm⟩
  | setUuid i _ | setPayload i _ | truncPayload i _ =>
    simp only [step, Heap.setUuid, Heap.setPayload, Heap.truncPayload]
    cases ho : h.objs[i]? with
    | none => exact ⟨hw, hm⟩
    | some o => exact ⟨Heap.wf_setObj hw ho rfl, hm⟩
  | rewrap i =>
    simp only [step, Heap.decoded]
    cases hv : h.view i with
    | none => exact ⟨hw, hm⟩
    | some m =>
      cases hmd : m.metadata with
      | none => simp only [hmd]; exact ⟨Heap.wf_lit hw _ _, hm⟩
      | some md =>
        cases hc : h.copy i with
        | none => simp only [hmd]; exact ⟨hw, hm⟩
        | some h' => simp only [hmd]; exact ⟨Heap.wf_copy hw hc, Heap.maps_copy hm hc⟩

theorem exec_invariants (ops : List Op) (h : Heap) (hw : h.WF) (hm : h.Maps) :
    (exec h ops).WF ∧ (exec h ops).Maps := by
  induction ops generalizing h with
  | nil => exact ⟨hw, hm⟩
  | cons o rest ih =>
    obtain ⟨hw', hm'⟩ := step_invariants h o hw hm
    exact ih _ hw' hm'

end Wm.Value
