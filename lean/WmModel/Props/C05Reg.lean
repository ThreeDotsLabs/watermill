/-
  Registry-level theorems for the GoChannel properties (model M_reg, WmModel/GcReg.lean): every reachable state,
  any number of Publish / Subscribe / Close calls and unsubscribe goroutines, every interleaving of their steps.
  * C07: `removeSubscriber` always finds its subscriber and `subscribersWg` never goes negative (no panic);
  * C05: a blocking Publish moves on only when every sender of the snapshot finished or the Pub/Sub is closing;
         the known finding D11 (nested publish + pending writer) as a machine-checked witness run of the model;
  * C07: Publish and Subscribe that start on a closed Pub/Sub return an error;
  * C04: the `sendMessage` step starts one sender per subscription registered for the topic, and no other.
-/
import WmModel.Lemmas.GcRegRs
import WmModel.Lemmas.GcRegWg
import WmModel.Lemmas.GcRegClose
namespace Wm.GcReg
open Wm.Lts

/-- invariant behind "removeSubscriber always finds its subscriber and the WaitGroup never goes negative" -/
def RegOk (s : St) : Prop :=
  s.panicked = false ∧
  -- W1: a thread past `announce` is the announced writer
  (∀ (i : Nat) (th : Th), s.ths[i]? = some th → holdsW th = true → s.ann = some i) ∧
  -- B1: a live unsubscribe goroutine's subscriber is registered, or its Subscribe is still inside the critical region
  (∀ (i t sid : Nat) (pc : TPc), s.ths[i]? = some (Th.td t sid pc) → pc ≠ TPc.done →
      (sid, t) ∈ s.subs ∨ ∃ j : Nat, s.ths[j]? = some (Th.sub t sid UPc.register)) ∧
  -- B2: the WaitGroup counts exactly the subscriptions on their way in or not yet removed
  (s.wg = s.ths.countP needsDone) ∧
  -- B3: subscription ids are fresh and unique per unsubscribe goroutine
  (∀ (i t sid : Nat) (pc : TPc), s.ths[i]? = some (Th.td t sid pc) → sid < s.nextSid) ∧
  (∀ (i j t t' sid : Nat) (pc pc' : TPc), s.ths[i]? = some (Th.td t sid pc) → s.ths[j]? = some (Th.td t' sid pc') → i = j) ∧
  (∀ (i t sid : Nat), s.ths[i]? = some (Th.sub t sid UPc.register) →
      sid < s.nextSid ∧ ∀ (j t' : Nat) (pc' : TPc), s.ths[j]? = some (Th.td t' sid pc') → t' = t)

/-- `RegOk` is `W1`, `WgOk` and `RsOk` (and no panic) in one -/
theorem regOk_iff (s : St) : RegOk s ↔ s.panicked = false ∧ W1 s ∧ WgOk s ∧ RsOk s :=
  ⟨fun ⟨r0, r1, r2, r3, r4, r5, r6⟩ => ⟨r0, r1, r3, r4, r5, r6, r2⟩,
   fun ⟨r0, r1, r3, r4, r5, r6, r2⟩ => ⟨r0, r1, r2, r3, r4, r5, r6⟩⟩

theorem reg_init (cfg : Cfg) : RegOk (init cfg) :=
  (regOk_iff _).mpr ⟨rfl, w1_init cfg, wg_init cfg, rs_init cfg⟩

/-- frame: thread `i` (neither Subscribe nor unsubscribe) is replaced by another such thread; `ann`, `subs`, `wg`,
    `nextSid`, `panicked` unchanged -/
theorem regOk_set_neutral (s t : St) (i : Nat) (old new : Th) (hold : s.ths[i]? = some old)
    (ho : isSubOrTd old = false) (hn : isSubOrTd new = false)
    (hths : t.ths = s.ths.set i new) (hann : t.ann = s.ann) (hsubs : t.subs = s.subs) (hwg : t.wg = s.wg)
    (hsid : t.nextSid = s.nextSid) (hp : t.panicked = s.panicked) (h : RegOk s) : RegOk t := by
  obtain ⟨r0, hw1, hg, hrs⟩ := (regOk_iff s).mp h
  have plain : ∀ th, isSubOrTd th = false → needsDone th = false ∧ atRegister th = false ∧ rsRel th = false := by
    intro th hx; cases th <;> first | exact ⟨rfl, rfl, rfl⟩ | cases hx
  refine (regOk_iff t).mpr ⟨hp.trans r0, ?_, ?_, ?_⟩
  · rw [W1, hths, hann]; exact w1_set_keep hw1 hold (.inr (holdsW_of_not new hn))
  · rw [WgOk, hths]; exact wg_set hg hold (by rw [(plain old ho).1, (plain new hn).1, hwg])
  · rw [RsOk, hths, hsubs, hsid]; exact rs_set_other hrs hold (plain old ho).2.1 (plain new hn).2.2

theorem reach_w1 (cfg : Cfg) : ∀ s, Reach (sys cfg) s → W1 s :=
  inv_of_Step cfg W1 (w1_init cfg) (fun _ h hs => w1_step h hs)

theorem reach_wg (cfg : Cfg) : ∀ s, Reach (sys cfg) s → WgOk s :=
  inv_of_Step cfg WgOk (wg_init cfg) (fun _ h hs => wg_step h hs)

theorem reach_rs (cfg : Cfg) : ∀ s, Reach (sys cfg) s → RsOk s :=
  inv_of_Step cfg RsOk (rs_init cfg) (fun _ h hs => rs_step h hs)

/-- at most one thread is past `announce`: the write lock of the subscribers RWMutex has one owner -/
theorem writer_unique (cfg : Cfg) (s : St) (h : Reach (sys cfg) s) (i j : Nat) (a b : Th)
    (hi : s.ths[i]? = some a) (hj : s.ths[j]? = some b) (ha : holdsW a = true) (hb : holdsW b = true) : i = j :=
  w1_unique (reach_w1 cfg s h) hi ha hj hb

/-- **the registry never panics**: `removeSubscriber` finds the subscriber it is asked to remove and
    `subscribersWg.Done()` never makes the counter negative – for every interleaving of Publish, Subscribe (with
    persistent replay), context cancels, unsubscribe goroutines and Close calls -/
theorem registry_never_panics (cfg : Cfg) : ∀ s, Reach (sys cfg) s → s.panicked = false := by
  refine inv_of_Step cfg (fun s => s.panicked = false) rfl ?_
  intro s a s' hr hp hs
  cases hs with
  | thread _ hm => cases hm <;> exact hp
  | panic hth hg =>
    -- the subscriber is registered (its Subscribe has left `register`, there being one writer), and the goroutine
    -- itself still counts in the WaitGroup
    have hwg := hg (by
      rcases (reach_rs cfg s hr).2.2.2 _ _ _ .remove hth nofun with h1 | ⟨j, hj⟩
      · exact h1
      · have := writer_unique cfg s hr _ j _ _ hth hj rfl rfl
        subst this; rw [hth] at hj; cases hj)
    have := countP_pos_of_get needsDone s.ths _ _ hth rfl
    rw [← reach_wg cfg s hr, hwg] at this
    cases this
  | _ => exact hp

/-- **blocking publish waits**: a Publish in BlockPublishUntilSubscriberAck mode leaves its wait for message `d` only
    when every sender goroutine of the snapshot taken for that message has finished, or the Pub/Sub is closing -/
theorem blocking_publish_waits (s s' : St) (i t d : Nat) (rest : List Nat) (ao : Option (Nat × Nat))
    (ha : stepPub s i t rest (.wait d) ao = some s') :
    (s.disp[d]?.getD []) = [] ∨ s.closingSig = true := by
  simp only [stepPub] at ha
  simpa using (Option.ite_none_right_eq_some.mp ha).1

/-- … and it reaches that wait for every message it handed to `sendMessage` (blocking configuration) -/
theorem blocking_send_then_wait (s s' : St) (i t m : Nat) (r : List Nat) (ao : Option (Nat × Nat))
    (hb : s.cfg.blocking = true) (ha : stepPub s i t (m :: r) .send ao = some s') :
    s'.ths[i]? = some (.pub t r (.wait s.disp.length) ao) ∨ s.ths[i]? = none := by
  simp [stepPub, hb] at ha
  subst ha
  by_cases hi : i < s.ths.length
  · left; simp [setTh, List.getElem?_set_self hi]
  · right; simp at hi; exact List.getElem?_eq_none hi

/-- **after Close: Publish and Subscribe fail**: with `closed` set (and no Close call holding `closedLock`) the first
    step of a Publish or Subscribe call is the error return -/
theorem publish_after_close_errs (s s' : St) (i t : Nat) (rest : List Nat) (ao : Option (Nat × Nat))
    (hc : s.closed = true) (ha : stepPub s i t rest .start ao = some s') :
    s' = setTh s i (.pub t rest .retErr ao) := by
  simp only [stepPub, hc, if_true] at ha
  exact (Option.some.inj (Option.ite_none_left_eq_some.mp ha).2).symm

theorem subscribe_after_close_errs (s s' : St) (i t sid : Nat)
    (hc : s.closed = true) (ha : stepSub s i t sid .start = some s') :
    s' = setTh s i (.sub t sid .retErr) := by
  simp only [stepSub, hc, if_true] at ha
  exact (Option.some.inj (Option.ite_none_left_eq_some.mp ha).2).symm

/-! ### Known finding D11 as a witness in the model

  Blocking mode. Subscription 0 (topic 0) exists; Publish P1 (thread 2) on topic 0 holds the read lock and waits for
  the ack; a second Subscribe (thread 3) has announced itself as writer and waits for the readers to drain; the
  consumer of subscription 0 calls Publish on topic 1 before acking (thread 4): its RLock is blocked by the announced
  writer.  No thread can move, `senderDone` for the delivery P1 waits for is reserved for the return of thread 4. -/
def d11Run : List Action :=
  [.newSub 0, .step 0, .step 0, .step 0, .step 0, .step 0, .step 0,
   .newPub 0 [7] none, .step 2, .step 2, .step 2, .step 2, .step 2,
   .newSub 1, .step 3, .step 3, .step 3,
   .newPub 1 [8] (some (0, 0)), .step 4]

theorem blocking_deadlock_witness :
    ∃ s, exec (sys ⟨false, true⟩) (init ⟨false, true⟩) d11Run = some s ∧
      s.ths[2]? = some (.pub 0 [] (.wait 0) none) ∧       -- the outer Publish has not returned
      s.ths[4]? = some (.pub 1 [8] .rlock (some (0, 0))) ∧ -- the consumer's nested Publish is stuck before RLock
      s.ann = some 3 ∧ s.readers = [2] ∧                    -- pending writer, one reader
      someThreadEnabled s = false ∧                         -- no thread can take a step
      act s (.senderDone 0 0) = none := by                  -- and the awaited sender cannot finish on its own
  refine ⟨_, rfl, ?_, ?_, ?_, ?_, ?_, ?_⟩ <;> decide

/-- the same program without the pending Subscribe completes: the nested Publish returns, the delivery is acked,
    the outer Publish returns – the deadlock needs the pending writer -/
theorem blocking_without_pending_writer_returns :
    ∃ s, exec (sys ⟨false, true⟩) (init ⟨false, true⟩)
      [.newSub 0, .step 0, .step 0, .step 0, .step 0, .step 0, .step 0,
       .newPub 0 [7] none, .step 2, .step 2, .step 2, .step 2, .step 2,
       .newPub 1 [8] (some (0, 0)), .step 3, .step 3, .step 3, .step 3, .step 3, .step 3, .step 3, .step 3,
       .senderDone 0 0, .step 2, .step 2, .step 2] = some s ∧
      s.ths[2]? = some (.pub 0 [] .retOk none) ∧ s.readers = [] := by
  refine ⟨_, rfl, ?_, ?_⟩ <;> decide

theorem reach_close (cfg : Cfg) : ∀ s, Reach (sys cfg) s → CloseOk s :=
  inv_of_Step cfg CloseOk (close_init cfg) (fun _ h hs => close_step h hs)

/-- a Close call that has returned (or is waiting for the subscribers) has closed the Pub/Sub; `g.closing` is
    signalled exactly when `closed` is set; the persisted backlog is dropped only after closing -/
theorem close_returned_means_closed (cfg : Cfg) (s : St) (h : Reach (sys cfg) s) (i : Nat) (pc : CPc)
    (hi : s.ths[i]? = some (.closer pc)) (hpc : pc ≠ .start) :
    s.closed = true ∧ s.closingSig = true ∧ (s.logNil = true → s.closed = true) := by
  obtain ⟨c1, _, c3, c4⟩ := reach_close cfg s h
  have hc := c1 i pc hi hpc
  exact ⟨hc, by rw [c3]; exact hc, c4⟩

/-- **after Close has returned, Publish and Subscribe return an error**: in every reachable state in which some
    Close call has returned, the first step of any Publish or Subscribe call – if it can move at all – is the
    error return -/
theorem after_close_errors (cfg : Cfg) (s : St) (h : Reach (sys cfg) s) (k : Nat)
    (hk : s.ths[k]? = some (.closer .ret)) :
    (∀ i t rest ao s', stepPub s i t rest .start ao = some s' → s' = setTh s i (.pub t rest .retErr ao)) ∧
    (∀ i t sid s', stepSub s i t sid .start = some s' → s' = setTh s i (.sub t sid .retErr)) := by
  have hc := (close_returned_means_closed cfg s h k .ret hk (by decide)).1
  exact ⟨fun i t rest ao s' ha => publish_after_close_errs s s' i t rest ao hc ha,
         fun i t sid s' ha => subscribe_after_close_errs s s' i t sid hc ha⟩

/-- only the Close call that waits for the subscribers holds `closedLock` -/
theorem closed_lock_owner (cfg : Cfg) (s : St) (h : Reach (sys cfg) s) (i : Nat) (hl : s.closedLock = some i) :
    s.ths[i]? = some (.closer .waitWg) :=
  ((reach_close cfg s h).2.1 i hl).1

/-- **every subscription registered for the topic when the message is handed over gets a sender, and nobody else**:
    the `sendMessage` step of a Publish on topic `t` starts exactly one sender goroutine per subscription registered
    for `t` at that moment – none for subscriptions of other topics – and records them as the ones the dispatcher of
    that message waits for -/
theorem send_starts_one_sender_per_registered (s s' : St) (i t m : Nat) (r : List Nat) (ao : Option (Nat × Nat))
    (ha : stepPub s i t (m :: r) .send ao = some s') :
    s'.started = s.started ++ (subsOf s t).map (fun sid => (sid, m)) ∧
    s'.disp = s.disp ++ [subsOf s t] ∧
    (∀ sid, (sid, m) ∈ (subsOf s t).map (fun sid => (sid, m)) ↔ (sid, t) ∈ s.subs) := by
  have hmem : ∀ sid, (sid, m) ∈ (subsOf s t).map (fun sid => (sid, m)) ↔ (sid, t) ∈ s.subs := fun sid =>
    ⟨fun hm => by
      obtain ⟨x, hx, e⟩ := List.mem_map.mp hm
      exact (Prod.mk.inj e).1 ▸ (mem_subsOf s t x).mp hx,
     fun hm => List.mem_map.mpr ⟨sid, (mem_subsOf s t sid).mpr hm, rfl⟩⟩
  simp only [stepPub] at ha
  split at ha <;> obtain rfl := Option.some.inj ha <;> exact ⟨rfl, rfl, hmem⟩

/-- in blocking mode the next message of a batch is handed over only after the wait for the previous one ended:
    from `wait d` the only step of the Publish thread is the one guarded by `blocking_publish_waits` -/
theorem blocking_order (s s' : St) (i t d : Nat) (rest : List Nat) (ao : Option (Nat × Nat))
    (ha : stepPub s i t rest (.wait d) ao = some s') :
    s' = setTh s i (.pub t rest .send ao) ∧ s'.started = s.started := by
  simp only [stepPub] at ha
  obtain rfl := Option.some.inj (Option.ite_none_right_eq_some.mp ha).2
  exact ⟨rfl, rfl⟩

end Wm.GcReg
