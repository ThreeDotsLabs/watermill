/-
  C01 – end-to-end at-least-once through Router pipelines connected by GoChannel topics, under handler and
  publisher faults.  Property theorems over the obligation model WmModel/Pipeline.lean.

  Every theorem quantifies over ALL pipeline shapes `p` (any number of stages, any fan-out/fan-in DAG that is
  numbered towards the sink: `Shape.WF`), ALL source scripts `srcs` (any number of messages), ALL fault scripts
  `faults` (any length, any mix of the five fault kinds, any stage) and – through `Reach` / `exec` – ALL schedules.

  `pipeline_refines` – what ties one abstract step to the code – rests on DOCUMENTED HYPOTHESES about one stage,
  stated here as the structure `StageFacts` (this file does not import the models they are proved on; for the
  `handleMessage` model `StageFacts` is proved in Props/C01Stage.lean, `handle_stage_facts`):

   H1 (C02, Props/C02.lean `ack_iff`, `publish_before_ack`, `settles_exactly_once`): one invocation of
      handler.handleMessage settles its message exactly once; it Acks iff the handler function returned without error
      or panic and `publisher.Publish` returned nil for the produced messages; the Ack follows the return of Publish;
      in all other cases it Nacks.
   H2 (C04, Props/C04.lean `nack_means_resend`, `redelivery_only_after_nack`; C05 `one_unsettled_inv`): a GoChannel
      sender keeps sending fresh copies of a message to its subscription until one copy is Acked; a Nack causes the
      next copy, nothing else does; no message is dropped while the Pub/Sub is open.
   H3 (C04, Props/C04Prod.lean `send_starts_sender_for_registered`; C11 `exactly_one_sender`): `GoChannel.Publish`
      that returns nil has started one sender for every subscription registered on the topic at that moment (all
      subscriptions exist before the first source message is published and none is cancelled while messages flow).
   H4 the fault script is finite and each scripted fault is injected at most once.
-/
import WmModel.Lemmas.PipelineMeasure
namespace Wm.Pipeline
open Wm.Lts Wm.Pipeline.ListLemmas

variable (p : Shape) (srcs : List Nat) (faults : List Fault)

/-- **never lost**: in every reachable state every lineage published at the source is in the sink log or is still
    owed by some subscription (a token exists) -/
theorem no_loss_inv (hw : p.WF) (s : St) (h : Reach (sys p srcs faults) s) (l : Nat) (hl : l ∈ s.pub) :
    l ∈ s.sink ∨ ∃ t, t ∈ s.toks ∧ t.lin = l :=
  (reach_good p hw srcs faults s h).cover l hl

/-- **a stage gives a message up only after the next topic accepted its output** (state form): whenever an `ack`
    step removes a token, that token was in phase `published`, and in the state AFTER the removal its lineage is
    still held strictly downstream or has been delivered to the sink -/
theorem ack_after_accept (hw : p.WF) (s : St) (h : Reach (sys p srcs faults) s) (i : Nat) (s' : St)
    (ha : act p s (.ack i) = some s') :
    ∃ t, s.toks[i]? = some t ∧ t.phase = .published ∧
      (t.lin ∈ s'.sink ∨ ∃ d, d ∈ s'.toks ∧ d.lin = t.lin ∧ t.stage < d.stage) := by
  cases step_iff.1 ha with
  | ack hi => exact ⟨_, hi, rfl, (reach_good p hw srcs faults s h).down_eraseIdx hi rfl⟩

/-- (step form, first half) phase `published` is entered only through `publishOk`, and that very step creates a
    pending token at EVERY subscription of the output topic -/
theorem publishOk_creates_downstream (s : St) (i : Nat) (s' : St) (ha : act p s (.publishOk i) = some s') :
    ∃ l st, s.toks[i]? = some ⟨l, st, .handling⟩ ∧ ∀ t, t ∈ p.next st → (⟨l, t, .pending⟩ : Tok) ∈ s'.toks := by
  cases step_iff.1 ha with
  | publishOk hi => exact ⟨_, _, hi, fun _ ht => List.mem_append_right _ (mem_spawn ht)⟩

/-- (step form, second half) no other step produces a `published` token -/
theorem published_only_via_publishOk (s : St) (a : Action) (s' : St) (ha : act p s a = some s')
    (hne : ∀ i, a ≠ .publishOk i) (x : Tok) (hx : x ∈ s'.toks) (hp : x.phase = .published) : x ∈ s.toks := by
  cases step_iff.1 ha with
  | publishOk => exact absurd rfl (hne _)
  | publishSource =>
    rcases List.mem_append.1 hx with h | h
    · exact h
    · cases List.mem_singleton.1 h; cases hp
  | deliver =>
    rcases List.mem_or_eq_of_mem_set hx with h | rfl
    · exact h
    · cases hp
  | fault hi =>
    rcases List.mem_append.1 hx with h | h
    · rcases List.mem_or_eq_of_mem_set h with h | rfl
      · exact h
      · cases hp
    · split at h
      · obtain ⟨_, _, rfl⟩ := List.mem_map.1 h; cases hp
      · cases h
  | ack => exact List.mem_of_mem_eraseIdx hx
  | sink => exact List.mem_of_mem_eraseIdx hx

/-- a token that changes phase in place (and whatever is appended) leaves every obligation where it was -/
theorem kept_of_set {ts : List Tok} {i l st : Nat} {ph : Phase} (hi : ts[i]? = some ⟨l, st, ph⟩) (ph' : Phase)
    (extra : List Tok) {t : Tok} (ht : t ∈ ts) :
    ∃ t', t' ∈ ts.set i ⟨l, st, ph'⟩ ++ extra ∧ t'.lin = t.lin ∧ t'.stage = t.stage := by
  have hp := fun x => (perm_set_append (lt_of_getElem? hi) ⟨l, st, ph'⟩ extra).mem_iff (a := x)
  rcases List.mem_cons.1 ((perm_eraseIdx hi).mem_iff.1 ht) with rfl | h
  · exact ⟨_, (hp _).2 (List.mem_cons_self ..), rfl, rfl⟩
  · exact ⟨t, (hp _).2 (List.mem_cons_of_mem _ (List.mem_append_right _ h)), rfl, rfl⟩

/-- **until then the message is redelivered**: only `ack` (and the sink's receipt) removes an obligation – after any
    other step, in particular after every fault, each token is still there with the same lineage and stage -/
theorem only_ack_removes (s : St) (a : Action) (s' : St) (ha : act p s a = some s')
    (h1 : ∀ i, a ≠ .ack i) (h2 : ∀ i, a ≠ .sink i) (t : Tok) (ht : t ∈ s.toks) :
    ∃ t', t' ∈ s'.toks ∧ t'.lin = t.lin ∧ t'.stage = t.stage := by
  cases step_iff.1 ha with
  | ack => exact absurd rfl (h1 _)
  | sink => exact absurd rfl (h2 _)
  | publishSource => exact ⟨t, List.mem_append_left _ ht, rfl, rfl⟩
  | deliver hi => simpa using kept_of_set hi .handling [] ht
  | fault hi => exact kept_of_set hi .pending _ ht
  | publishOk hi => exact kept_of_set hi .published _ ht

/-- a fault puts the token back to `pending` at the same stage: the Nacked message will be delivered again -/
theorem fault_redelivers (s : St) (i k : Nat) (s' : St) (ha : act p s (.fault i k) = some s') :
    ∃ l st, s.toks[i]? = some ⟨l, st, .handling⟩ ∧ s'.toks[i]? = some ⟨l, st, .pending⟩ ∧
      s'.faults.length + 1 = s.faults.length := by
  cases step_iff.1 ha with
  | fault hi hk =>
    exact ⟨_, _, hi, getElem?_set_append (lt_of_getElem? hi) _ _, (perm_eraseIdx hk).length_eq.symm⟩

/-- **everything arriving at the final topic derives from a message really published at the source** -/
theorem sink_sound (hw : p.WF) (s : St) (h : Reach (sys p srcs faults) s) (l : Nat) (hl : l ∈ s.sink) :
    l ∈ s.pub ∧ l ∈ srcs := by
  have g := reach_good p hw srcs faults s h
  exact ⟨g.sinkPub l hl, g.pubScript l (g.sinkPub l hl)⟩

/-- **once the faults stop …**: every schedule terminates – no run of the pipeline, whatever the shape, the scripts
    and the interleaving, is longer than the measure of its first state (no fairness assumption) -/
theorem all_runs_finite (hw : p.WF) (s : St) (h : Reach (sys p srcs faults) s) (run : List Action) (s' : St)
    (he : exec (sys p srcs faults) s run = some s') : run.length + mu p s' ≤ mu p s := by
  have := steps_bounded_reach (sys p srcs faults) (mu p) (fun _ => true)
    (fun s a s' hr ha _ => mu_step p hw srcs s a s' (reach_good p hw srcs faults s hr) ha)
    (fun _ _ _ _ _ hf => nomatch hf) run s s' h he
  rwa [List.filter_eq_self.2 (fun _ _ => rfl)] at this

/-- the bound for whole runs, spelled out: at most `|srcs|·(3Kⁿ+1) + |faults|·3Kⁿ` steps -/
theorem all_runs_finite_init (hw : p.WF) (run : List Action) (s' : St)
    (he : exec (sys p srcs faults) (init srcs faults) run = some s') :
    run.length ≤ srcs.length * (3 * p.K ^ p.n + 1) + faults.length * (3 * p.K ^ p.n) := by
  have := all_runs_finite p srcs faults hw (init srcs faults) Reach.init run s' he
  simp [mu, init, pw] at this
  omega

/-- **… it reaches the final topic at least once**: in a reachable state where nothing can move, nothing is owed any
    more, the environment has published its whole script, and every lineage of the script is in the sink log -/
theorem terminal_delivered (hw : p.WF) (s : St) (h : Reach (sys p srcs faults) s) (hterm : ∀ a, act p s a = none) :
    s.toks = [] ∧ s.srcs = [] ∧ ∀ l, l ∈ srcs → 1 ≤ delivered s l := by
  have g := reach_good p hw srcs faults s h
  have stuck {a s'} (hs : Step p s a s') : False := nomatch (hterm a).symm.trans (step_iff.2 hs)
  -- a token in any phase has an enabled action, and so has a source message still to be published
  have htoks : s.toks = [] := by
    cases hts : s.toks with
    | nil => rfl
    | cons t rest =>
      have h0 : s.toks[0]? = some t := by rw [hts]; rfl
      obtain ⟨l, st, ph⟩ := t
      cases ph with
      | pending =>
        rcases Nat.lt_or_eq_of_le (g.bound _ (List.mem_of_getElem? h0)) with h1 | h1
        · exact (stuck (.deliver h0 h1)).elim
        · exact (stuck (.sink h0 h1)).elim
      | handling => exact (stuck (.publishOk h0)).elim
      | published => exact (stuck (.ack h0)).elim
  have hsrcs : s.srcs = [] := by
    cases hs : s.srcs with
    | nil => rfl
    | cons l rest => exact (stuck (.publishSource (k := 0) (l := l) (by rw [hs]; rfl))).elim
  refine ⟨htoks, hsrcs, ?_⟩
  intro l hl
  have hp : l ∈ s.pub := (g.script l hl).resolve_right (by simp [hsrcs])
  exact List.count_pos_iff.2 ((g.cover l hp).resolve_right (by simp [htoks]))

/-- both halves together: every maximal run (one that cannot be extended) is finite and ends with every source
    lineage at the sink -/
theorem maximal_run_delivers (hw : p.WF) (run : List Action) (s : St)
    (he : exec (sys p srcs faults) (init srcs faults) run = some s) (hmax : ∀ a, act p s a = none)
    (l : Nat) (hl : l ∈ srcs) : 1 ≤ delivered s l ∧ run.length ≤ mu p (init srcs faults) := by
  have hr : Reach (sys p srcs faults) s := reach_of_exec (sys p srcs faults) Reach.init run he
  refine ⟨(terminal_delivered p srcs faults hw s hr hmax).2.2 l hl, ?_⟩
  have := all_runs_finite p srcs faults hw (init srcs faults) Reach.init run s he
  omega

/-! ### pipeline_refines – the per-stage facts as explicit hypotheses

  One invocation of a stage on a delivered copy is described by what happened (`Invocation`) and by what the
  code did about it: how the consumed copy was settled and whether the next topic accepted the output.  `StageFacts`
  restates H1–H3 for such a description; `pipeline_refines` shows that every invocation that satisfies them is
  matched by steps of the model – so a run of real stages is a run of the model as long as the facts hold. -/

inductive Invocation
  | ok                          -- handler returned outputs, Publish returned nil
  | fails (k : FaultKind)       -- one of the five faults hit
  deriving DecidableEq, Repr

structure Effect where
  acked    : Bool   -- the consumed copy was Acked (otherwise Nacked)
  accepted : Bool   -- the next topic accepted the output (one sender per subscription started)
  deriving DecidableEq, Repr

structure StageFacts (eff : Invocation → Effect) : Prop where
  /-- H1: Ack iff the handler succeeded and Publish returned nil -/
  ack_iff_ok : ∀ o, (eff o).acked = true ↔ o = .ok
  /-- H1 (order) + H3: an Ack implies that the output was accepted before -/
  ack_needs_accept : ∀ o, (eff o).acked = true → (eff o).accepted = true
  /-- the harness's publisher wrapper hands the output on exactly in the `ok` and `pubErrAfterPartial` cases -/
  accept_iff : ∀ o, (eff o).accepted = true ↔ (o = .ok ∨ o = .fails .pubErrAfterPartial)

/-- the effect function of the real handleMessage + scripted publisher satisfies the facts (so the structure is
    inhabited: the hypotheses are consistent) -/
def realEff : Invocation → Effect
  | .ok => ⟨true, true⟩
  | .fails .pubErrAfterPartial => ⟨false, true⟩
  | .fails _ => ⟨false, false⟩

theorem realEff_facts : StageFacts realEff := by
  constructor <;> intro o <;> cases o with
  | ok => simp [realEff]
  | fails k => cases k <;> simp [realEff]

/-- **pipeline_refines**: let a copy of lineage `l` be in `handling` at stage `st` (token `i`).  Whatever the
    invocation does, if its effect obeys `StageFacts` (and, for a fault, the script still holds that fault: H4), the
    model has matching steps leading to a state `s'` in which
     * the token is gone iff the copy was Acked, and otherwise is `pending` again at the same place (H2: redelivery),
     * a pending token exists at every subscription of the output topic iff the output was accepted (H3). -/
theorem pipeline_refines (eff : Invocation → Effect) (hf : StageFacts eff) (s : St) (i l st : Nat)
    (hi : s.toks[i]? = some ⟨l, st, .handling⟩) (o : Invocation)
    (hscript : ∀ k, o = .fails k → ∃ j : Nat, s.faults[j]? = some (⟨k, st⟩ : Fault)) :
    ∃ acts s', exec (sys p srcs faults) s acts = some s' ∧
      ((eff o).acked = true → s'.toks = (s.toks.eraseIdx i) ++ spawn p l st) ∧
      ((eff o).acked = false → s'.toks[i]? = some ⟨l, st, .pending⟩) ∧
      ((eff o).accepted = true → ∀ t, t ∈ p.next st → (⟨l, t, .pending⟩ : Tok) ∈ s'.toks) ∧
      ((eff o).accepted = false → s'.toks.length = s.toks.length) := by
  have hlt := lt_of_getElem? hi
  cases o with
  | ok =>
    have hack : (eff .ok).acked = true := (hf.ack_iff_ok .ok).2 rfl
    have hacc : (eff .ok).accepted = true := hf.ack_needs_accept _ hack
    have h1 := step_iff.2 (Step.publishOk (p := p) hi)
    have h2 := step_iff.2 (Step.ack (p := p) (s := { s with toks := s.toks.set i ⟨l, st, .published⟩ ++ spawn p l st })
      (getElem?_set_append hlt _ _))
    have h3 := eraseIdx_set_append hlt ⟨l, st, .published⟩ (spawn p l st)
    refine ⟨[.publishOk i, .ack i], _, by simp only [exec, sys, h1, h2]; rfl, ?_, ?_, ?_, ?_⟩
    · exact fun _ => h3
    · exact fun h => nomatch hack.symm.trans h
    · exact fun _ t ht => h3 ▸ List.mem_append_right _ (mem_spawn ht)
    · exact fun h => nomatch hacc.symm.trans h
  | fails k =>
    obtain ⟨j, hj⟩ := hscript k rfl
    have hnack : (eff (.fails k)).acked = false := by
      cases h : (eff (.fails k)).acked with
      | false => rfl
      | true => cases (hf.ack_iff_ok _).1 h
    have h1 := step_iff.2 (Step.fault (p := p) hi hj rfl)
    refine ⟨[.fault i j], _, by simp only [exec, sys, h1]; rfl, ?_, ?_, ?_, ?_⟩
    · exact fun h => nomatch hnack.symm.trans h
    · exact fun _ => getElem?_set_append hlt _ _
    · intro h t ht
      rcases (hf.accept_iff _).1 h with h | h
      · cases h
      · cases h; exact List.mem_append_right _ (mem_spawn ht)
    · intro h
      have hk : k ≠ .pubErrAfterPartial := by
        rintro rfl
        rw [(hf.accept_iff _).2 (.inr rfl)] at h
        cases h
      simp [hk]

/-! ### non-vacuity

  A diamond: stage 0 publishes to a topic with two subscribed handlers (fan-out 1, 2) whose outputs meet in the
  topic of stage 3 (fan-in), which feeds the sink 4.  One source message (lineage 7); the publisher of stage 0
  reports an error after handing the message on (`pubErrAfterPartial`), the handler of stage 1 fails once. -/

def exShape : Shape := ⟨[[1, 2], [3], [3], [4]]⟩
def exFaults : List Fault := [⟨.pubErrAfterPartial, 0⟩, ⟨.handlerErr, 1⟩]
def exPrefix : List Action := [.publishSource 0, .deliver 0, .fault 0 0, .deliver 1, .fault 1 0]
def exRun : List Action :=
  exPrefix ++ (List.replicate 9 [Action.deliver 0, .publishOk 0, .ack 0]).flatten ++ List.replicate 4 (.sink 0)
def exFinal : St := { toks := [], faults := [], srcs := [], pub := [7], sink := [7, 7, 7, 7] }

example : exShape.WF := by decide

/-- after the two faults: stage 0 is pending again (redelivery), and the partial publish already created the
    downstream copies at both subscriptions of the fan-out topic -/
example : exec (sys exShape [7] exFaults) (init [7] exFaults) exPrefix =
    some { toks := [⟨7, 0, .pending⟩, ⟨7, 1, .pending⟩, ⟨7, 2, .pending⟩], faults := [], srcs := [], pub := [7], sink := [] } := by
  decide

/-- the whole run: lineage 7 reaches the sink four times (2 publishes of stage 0 × 2 branches) – at least once -/
theorem exRun_final : exec (sys exShape [7] exFaults) (init [7] exFaults) exRun = some exFinal := by decide

theorem exFinal_terminal : ∀ a, act exShape exFinal a = none := by
  intro a; cases a <;> simp [act, exFinal]

/-- hypotheses of `no_loss_inv`, `sink_sound`, `terminal_delivered`, `maximal_run_delivers` are satisfiable together -/
example : 1 ≤ delivered exFinal 7 ∧ exRun.length ≤ mu exShape (init [7] exFaults) :=
  maximal_run_delivers exShape [7] exFaults (by decide) exRun exFinal exRun_final exFinal_terminal 7 (by simp)

/-- a handler that emits two outputs per input (successor listed twice): the publish error on the first attempt hands
    nothing on; after the redelivery both copies exist and both reach the sink -/
example : exec (sys ⟨[[1, 1], [2]]⟩ [7] [⟨.pubErr, 0⟩]) (init [7] [⟨.pubErr, 0⟩])
    [.publishSource 0, .deliver 0, .fault 0 0, .deliver 0, .publishOk 0, .ack 0, .deliver 0, .publishOk 0, .ack 0,
     .deliver 0, .publishOk 0, .ack 0, .sink 0, .sink 0] =
    some { toks := [], faults := [], srcs := [], pub := [7], sink := [7, 7] } ∧ (⟨[[1, 1], [2]]⟩ : Shape).WF := by decide

/-- hypotheses of `ack_after_accept`: a reachable state with an enabled `ack` -/
example : Reach (sys exShape [7] [])
      { toks := [⟨7, 0, .published⟩, ⟨7, 1, .pending⟩, ⟨7, 2, .pending⟩], faults := [], srcs := [], pub := [7], sink := [] } ∧
    act exShape { toks := [⟨7, 0, .published⟩, ⟨7, 1, .pending⟩, ⟨7, 2, .pending⟩], faults := [], srcs := [], pub := [7], sink := [] }
      (.ack 0) = some { toks := [⟨7, 1, .pending⟩, ⟨7, 2, .pending⟩], faults := [], srcs := [], pub := [7], sink := [] } :=
  ⟨reach_of_exec (sys exShape [7] []) Reach.init [.publishSource 0, .deliver 0, .publishOk 0] (by decide), by decide⟩

/-- hypotheses of `pipeline_refines`: a handling token and a script that still holds the fault; the conclusion says
    that the copy is pending again at stage 0 and that both subscriptions of the fan-out topic got their copy -/
example : ∃ acts s', exec (sys exShape [7] exFaults)
      { toks := [⟨7, 0, .handling⟩], faults := exFaults, srcs := [], pub := [7], sink := [] } acts = some s' ∧
      s'.toks[0]? = some ⟨7, 0, .pending⟩ ∧ (⟨7, 1, .pending⟩ : Tok) ∈ s'.toks ∧ (⟨7, 2, .pending⟩ : Tok) ∈ s'.toks := by
  obtain ⟨acts, s', h1, _, h3, h4, _⟩ := pipeline_refines exShape [7] exFaults realEff realEff_facts
    { toks := [⟨7, 0, .handling⟩], faults := exFaults, srcs := [], pub := [7], sink := [] } 0 7 0 (by decide)
    (.fails .pubErrAfterPartial) (by intro k hk; cases hk; exact ⟨0, by decide⟩)
  exact ⟨acts, s', h1, h3 rfl, h4 rfl 1 (by decide), h4 rfl 2 (by decide)⟩

end Wm.Pipeline
