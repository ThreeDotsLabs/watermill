/-
  C17 – the Router's settle rule that `Wm.GoRelay.rqRun` / `fwRun` apply to the error returned by the Requeuer's and the
  Forwarder's handler (`if err then .nack else .ack`; both components register with `AddNoPublisherHandler` and return
  no messages) is *derived* from the model of `handler.handleMessage` (WmModel/Handle.lean, tied to the
  Go source by `Props/C02Tie.lean`) and the settlement model of C03 – so "acked only after the destination accepted it"
  is a statement about the settlement `handleMessage` really produces.
-/
import WmModel.GoRelay
import WmModel.Props.C02
namespace Wm.GoRelay
open Wm.Handle (Cfg PubOutcome handle sentAfter)

def settleSent : Wm.Poison.Settle → Ack.Sent
  | .ack => .ack
  | .nack => .nack

/-- a handler that returns no messages: error ⇒ Nack, nil ⇒ Ack – for every handler configuration, every publisher
    behaviour (it is never asked), every kind of message -/
theorem relay_settle_rule_eq_handle (k : Ack.Kind) (c : Cfg) (p : PubOutcome) (err : Bool) :
    sentAfter k (handle c ⟨none, (.returns [] err : Handle.Result Unit)⟩ p) =
      settleSent (if err then .nack else .ack) ∧
    (handle c ⟨none, (.returns [] err : Handle.Result Unit)⟩ p).any Handle.Effect.isPublishCall = false := by
  rw [Handle.sentAfter_handle, Handle.any_publishCall_handle]
  cases err <;> exact ⟨rfl, rfl⟩

/-- the settlement `rqRun` reports is the one `handleMessage` produces for the handler's returned error -/
theorem rqRun_settle_eq_handle (k : Ack.Kind) (c : Cfg) (p : PubOutcome) (env : RqEnv) (body : List RqStmt) (m : Wm.Poison.Msg)
    (o : Wm.Relay.RqOut) (h : rqRun env body m = some o) :
    ∃ err, sentAfter k (handle c ⟨none, (.returns [] err : Handle.Result Unit)⟩ p) = settleSent o.settle := by
  unfold rqRun at h
  split at h
  · rename_i s err _
    simp at h
    subst h
    exact ⟨err, (relay_settle_rule_eq_handle k c p err).1⟩
  · simp at h

/-- … and so is the one `fwRun` reports -/
theorem fwRun_settle_eq_handle (k : Ack.Kind) (c : Cfg) (p : PubOutcome) (fb : List FwStmt) (ub : List UwStmt) (ack : Bool)
    (pr : Wm.Relay.Parsed) (dest : Wm.Poison.POut) (o : Wm.Relay.Out) (h : fwRun fb ub ack pr dest = some o) :
    ∃ err, sentAfter k (handle c ⟨none, (.returns [] err : Handle.Result Unit)⟩ p) = settleSent o.settle := by
  unfold fwRun at h
  split at h
  · simp at h
  · split at h
    · rename_i s err _
      simp at h
      subst h
      exact ⟨err, (relay_settle_rule_eq_handle k c p err).1⟩
    · simp at h

end Wm.GoRelay
