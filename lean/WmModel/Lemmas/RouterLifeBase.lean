/-
  RouterLife as a transition system, and one step of it as a relation: `Step fx s a s'` has one constructor per enabled
  branch of `act`, carrying the guards of the branch and the post-state as the model writes it.  Every invariant of the
  model is proved by cases on `Step`.
-/
import WmModel.RouterLife
import WmModel.Lts
import WmModel.Lemmas.ListIdx
namespace Wm.RouterLife
open Wm.Lts

def sys (fx : Fix) : Sys St Action := { init := init, act := act fx }

theorem loopsEnded_iff (s : St) : loopsEnded s = true ↔ ∀ h ∈ s.hs, h.loop.ended = true := by
  simp [loopsEnded, List.all_eq_true]

theorem noneInFlight_iff (s : St) : noneInFlight s = true ↔ ∀ m ∈ s.msgs, m.stage.inFlight = false := by
  simp [noneInFlight, List.all_eq_true]

theorem Loop.ended_iff {l : Loop} : l.ended = true ↔ l = .delete ∨ l = .done := by
  cases l <;> simp [Loop.ended]

inductive Step (fx : Fix) (s : St) : Action → St → Prop
  | addHandlerTok : s.hl = .free → s.closed = false → fx.d14 = true →
      Step fx s .addHandler { s with hs := s.hs ++ [newHandler (!s.isRunning)], tok := true }
  | addHandlerSel : s.hl = .free → s.closed = false → fx.d14 = false → s.watch = .sel →
      Step fx s .addHandler { s with hs := s.hs ++ [newHandler (!s.isRunning)], watch := .wait }
  | addHandlerDrop : s.hl = .free → s.closed = false → fx.d14 = false → s.watch ≠ .sel →
      Step fx s .addHandler { s with hs := s.hs ++ [newHandler (!s.isRunning)] }
  | runCallAgain : s.isRunning = true → Step fx s .runCall { s with runErrs := s.runErrs + 1 }
  | runCall : s.isRunning = false → s.run = .idle → Step fx s .runCall { s with isRunning := true, run := .startWatch }
  | runWatch : s.run = .startWatch → s.hl = .free →
      Step fx s .runWatch { s with run := .callRh, watch := if s.hs.all (·.removed) then .presel else .wait }
  | runRh : s.run = .callRh → s.hl = .free → Step fx s .runRh { s with run := .inRh, hl := .rh true none }
  | runRunning : s.run = .closeRunning → Step fx s .runRunning { s with running := true, run := .waitClosing }
  | runCancelStep : s.run = .waitClosing → s.closing = true →
      Step fx s .runCancelStep { s with runCancel := true, run := .waitClosed }
  | runRet : s.run = .waitClosed → s.closedCh = true → Step fx s .runRet { s with run := .ret }
  | rhCall : s.isRunning = true → s.hl = .free → Step fx s .rhCall { s with hl := .rh false none }
  | rhSub {i v h} : s.hl = .rh v none → s.hs[i]? = some h → h.started = false → h.removed = false →
      Step fx s (.rhSub i)
        { (updH s i fun h => { h with subCalls := h.subCalls + 1, pump := .idle, viaRun := v }) with hl := .rh v (some (i, 0)) }
  | rhSubFail {i v h} : s.hl = .rh v none → s.hs[i]? = some h → h.started = false → h.removed = false →
      Step fx s (.rhSubFail i)
        { s with hl := .free, run := if v then .failed else s.run, runCancel := if v then true else s.runCancel }
  | rhStep0 {i v} : s.hl = .rh v (some (i, 0)) →
      Step fx s .rhStep { (updH s i (if fx.d7 then markStop else markStarted)) with hl := .rh v (some (i, 1)) }
  | rhStep1 {i v} : s.hl = .rh v (some (i, 1)) →
      Step fx s .rhStep { (updH s i (if fx.d7 then markStarted else markStop)) with hl := .rh v (some (i, 2)) }
  | rhSpawn {i v} : s.hl = .rh v (some (i, 2)) →
      Step fx s .rhSpawn { (updH s i fun h => { h with loop := .idle, hc := .sel }) with hl := .rh v none }
  | rhEnd {v} : s.hl = .rh v none → s.hs.all (fun h => h.started || h.removed) = true →
      Step fx s .rhEnd { s with hl := .free, run := if v then .closeRunning else s.run }
  | emit {i h} : s.hs[i]? = some h → h.pump = .idle → h.innerClosed = false →
      Step fx s (.emit i)
        { (updH s i fun h => { h with pump := .hold s.msgs.length }) with msgs := s.msgs ++ [⟨i, .pump, .none⟩] }
  | pumpOut {i h m} : s.hs[i]? = some h → h.pump = .hold m → h.loop = .idle →
      Step fx s (.pumpOut i)
        (updM (updH s i fun h => { h with pump := .idle, loop := .hold m }) m fun x => { x with stage := .recv })
  | pumpDrop {i h m} : s.hs[i]? = some h → h.pump = .hold m → h.decClosing = true →
      Step fx s (.pumpDrop i) (updM (updH s i fun h => { h with pump := .idle }) m fun x => { x with stage := .dropped })
  | pumpEnd {i h} : s.hs[i]? = some h → h.pump = .idle → h.innerClosed = true →
      Step fx s (.pumpEnd i) (updH s i fun h => { h with pump := .done })
  | innerCtx {i h} : s.hs[i]? = some h → h.pump ≠ .off → ctxOf s h = true → h.innerClosed = false →
      Step fx s (.innerCtx i) (updH s i fun h => { h with innerClosed := true })
  | dispatch {i h m} : s.hs[i]? = some h → h.loop = .hold m → s.wB ≠ .held →
      Step fx s (.dispatch i) (updM (updH s i fun h => { h with loop := .idle }) m fun x => { x with stage := .disp })
  | loopEnd {i h} : s.hs[i]? = some h → h.loop = .idle → h.pump = .done →
      Step fx s (.loopEnd i) (updH s i fun h => { h with loop := .pubClose })
  | pubClose {i h} : s.hs[i]? = some h → h.loop = .pubClose →
      Step fx s (.pubClose i) (updH s i fun h => { h with loop := .wgDone, pubCloseCalls := h.pubCloseCalls + 1 })
  | wgDone {i h} : s.hs[i]? = some h → h.loop = .wgDone →
      Step fx s (.wgDone i) (updH s i fun h => { h with loop := .delete })
  | loopDelete {i h} : s.hs[i]? = some h → h.loop = .delete → s.hl = .free →
      Step fx s (.loopDelete i)
        (updH s i fun h => { h with loop := .done, removed := true, stoppedCh := true, ctxDone := true })
  | hStart {m x} : s.msgs[m]? = some x → x.stage = .disp →
      Step fx s (.hStart m) (updM s m fun x => { x with stage := .inH })
  | hReturnOk {m x} : s.msgs[m]? = some x → x.stage = .inH →
      Step fx s (.hReturn m true) (updM s m fun x => { x with stage := .pub })
  | hReturnErr {m x} : s.msgs[m]? = some x → x.stage = .inH →
      Step fx s (.hReturn m false) (updM s m fun x => { x with stage := .done, settle := .nack })
  | hPublishedOk {m x} : s.msgs[m]? = some x → x.stage = .pub →
      Step fx s (.hPublished m true) (updM s m fun x => { x with stage := .preSettle })
  | hPublishedErr {m x} : s.msgs[m]? = some x → x.stage = .pub →
      Step fx s (.hPublished m false) (updM s m fun x => { x with stage := .done, settle := .nack })
  | hSettle {m x} : s.msgs[m]? = some x → x.stage = .preSettle →
      Step fx s (.hSettle m) (updM s m fun x => { x with stage := .done, settle := .ack })
  | hcClose {i h} : s.hs[i]? = some h → h.hc = .sel → s.closing = true →
      Step fx s (.hcClose i) (updH s i fun h => { h with hc := .innerCall, subCloseCalls := h.subCloseCalls + 1 })
  | hcCtxClose {i h} : s.hs[i]? = some h → h.hc = .sel → ctxOf s h = true → fx.d6 = true → s.closing = true →
      Step fx s (.hcCtx i) (updH s i fun h => { h with hc := .innerCall, subCloseCalls := h.subCloseCalls + 1 })
  | hcCtxStop {i h} : s.hs[i]? = some h → h.hc = .sel → ctxOf s h = true → ¬(fx.d6 = true ∧ s.closing = true) →
      Step fx s (.hcCtx i) (updH s i fun h => { h with hc := .stop })
  | hcInnerRet {i h} : s.hs[i]? = some h → h.hc = .innerCall →
      Step fx s (.hcInnerRet i) (updH s i fun h => { h with hc := .waitPump, innerClosed := true, decClosing := true })
  | hcCloseFail {i h} : s.hs[i]? = some h → h.hc = .innerCall →
      Step fx s (.hcCloseFail i) (updH s i fun h => { h with hc := .stop })
  | hcPumpWaited {i h} : s.hs[i]? = some h → h.hc = .waitPump → h.pump = .done →
      Step fx s (.hcPumpWaited i) (updH s i fun h => { h with hc := .stop })
  | hcStop {i h} : s.hs[i]? = some h → h.hc = .stop →
      Step fx s (.hcStop i) (updH s i fun h => { h with hc := .done, ctxDone := true })
  | stop {i h} : s.hs[i]? = some h → h.startedCh = true → h.started = true → h.stopSet = true →
      Step fx s (.stop i) (updH s i fun h => { h with ctxDone := true })
  | stopPanic {i h} : s.hs[i]? = some h → h.startedCh = true → ¬(h.started = true ∧ h.stopSet = true) →
      Step fx s (.stop i) { s with panicked := true }
  | cancelExt : Step fx s .cancelExt { s with extCancel := true }
  | closeCall : Step fx s .closeCall { s with closers := s.closers ++ [.wantCL] }
  | closeCL {k} : s.closers[k]? = some .wantCL → s.cl = none →
      Step fx s (.closeCL k) { (setC s k .wantHL) with cl := some k }
  | closeHLAgain {k} : s.closers[k]? = some .wantHL → s.hl = .free → s.closed = true →
      Step fx s (.closeHL k) { (setC s k (.ret false)) with cl := none }
  | closeHL {k} : s.closers[k]? = some .wantHL → s.hl = .free → s.closed = false →
      Step fx s (.closeHL k) { (setC s k .waiting) with closed := true, closing := true, hl := .closer k }
  | closeDone {k} : s.closers[k]? = some .waiting → s.wA = true → s.wB = .done →
      Step fx s (.closeDone k)
        { (setC s k (.ret false)) with closedCh := true, cl := none, hl := .free, closeNil := true }
  | closeTimeout {k} : s.closers[k]? = some .waiting → s.timerFired = true →
      Step fx s (.closeTimeout k)
        { (setC s k (.ret true)) with closedCh := true, cl := none, hl := .free, closeErr := true }
  | timer : s.closed = true → s.closedCh = false → Step fx s .timer { s with timerFired := true }
  | wLoops : s.closed = true → s.wA = false → loopsEnded s = true → Step fx s .wLoops { s with wA := true }
  | wLock : s.closed = true → s.wB = .idle → (fx.d5 = true → s.wA = true) → Step fx s .wLock { s with wB := .held }
  | wRunning : s.wB = .held → noneInFlight s = true → Step fx s .wRunning { s with wB := .done }
  | watchArrive : s.watch = .presel → Step fx s .watchArrive { s with watch := .sel }
  | watchTok : s.watch = .sel → s.tok = true → Step fx s .watchTok { s with watch := .wait, tok := false }
  | watchClosed : s.watch = .sel → s.closedCh = true → Step fx s .watchClosed { s with watch := .done }
  | watchZero : s.watch = .wait → loopsEnded s = true → Step fx s .watchZero { s with watch := .check }
  | watchCheckClosed : s.watch = .check → s.cl = none → s.closed = true →
      Step fx s .watchCheck { s with watch := .done }
  | watchCheck : s.watch = .check → s.cl = none → s.closed = false →
      Step fx s .watchCheck { s with watch := .done, closers := s.closers ++ [.wantCL] }

theorem step_of_act {fx : Fix} {s s' : St} {a : Action} (h : act fx s a = some s') : Step fx s a s' := by
  cases a <;> dsimp only [act] at h
  -- by hand: a conditional inside the post-state, a guard that is an implication, a Boolean parameter of the action
  case runWatch =>
    split at h
    · next hg => cases h; exact .runWatch hg.1 hg.2
    · cases h
  case wLock =>
    split at h
    · next hg => cases h; exact .wLock hg.1 hg.2.1 hg.2.2
    · cases h
  case rhSubFail =>
    split at h
    · next hhl hx =>
      split at h
      · next hg => cases h; exact .rhSubFail hhl hx hg.1 hg.2
      · cases h
    · cases h
  case rhStep =>
    split at h
    · next hhl => cases h; exact .rhStep0 hhl
    · next hhl => cases h; exact .rhStep1 hhl
    · cases h
  case rhEnd =>
    split at h
    · next hhl =>
      split at h
      · next hall => cases h; exact .rhEnd hhl hall
      · cases h
    · cases h
  case hReturn m ok | hPublished m ok =>
    cases ok <;> simp only [Bool.false_eq_true, if_false, if_true] at h <;> (repeat' split at h) <;> cases h <;>
      constructor <;> assumption
  -- the others: split along the nested guards; an enabled branch is its constructor, its guards are in the context
  all_goals (repeat' split at h) <;> cases h <;> constructor <;> first | assumption | simp [*]

theorem act_of_step {fx : Fix} {s s' : St} {a : Action} (h : Step fx s a s') : act fx s a = some s' := by
  cases h <;> simp [act, *] <;> assumption

theorem Step.enabled {fx : Fix} {s s' : St} {a : Action} (h : Step fx s a s') : (act fx s a).isSome = true := by
  rw [act_of_step h]; rfl

/-! actions with two branches that are enabled whichever of the two applies -/

theorem closeHL_enabled {fx : Fix} {s : St} {k : Nat} (hk : s.closers[k]? = some CPc.wantHL) (hf : s.hl = .free) :
    (act fx s (.closeHL k)).isSome = true := by
  cases hc : s.closed
  · exact (Step.closeHL hk hf hc).enabled
  · exact (Step.closeHLAgain hk hf hc).enabled

theorem hcCtx_enabled {fx : Fix} {s : St} {i : Nat} {h : Handler} (hx : s.hs[i]? = some h) (hc : h.hc = .sel)
    (hctx : ctxOf s h = true) : (act fx s (.hcCtx i)).isSome = true := by
  by_cases hd : fx.d6 = true ∧ s.closing = true
  · exact (Step.hcCtxClose hx hc hctx hd.1 hd.2).enabled
  · exact (Step.hcCtxStop hx hc hctx hd).enabled

theorem watchCheck_enabled {fx : Fix} {s : St} (hw : s.watch = .check) (hcl : s.cl = none) :
    (act fx s .watchCheck).isSome = true := by
  cases hc : s.closed
  · exact (Step.watchCheck hw hcl hc).enabled
  · exact (Step.watchCheckClosed hw hcl hc).enabled

/-- an action none of whose branches is enabled -/
theorem act_none_of {fx : Fix} {s : St} {a : Action} (h : ∀ s', Step fx s a s' → False) : act fx s a = none :=
  Option.eq_none_iff_forall_ne_some.mpr fun s' e => h s' (step_of_act e)

end Wm.RouterLife
