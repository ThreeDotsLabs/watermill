import WmModel.Lemmas.GcProdLink
import WmModel.Lemmas.GcRegDw
import WmModel.Lemmas.GcRegMono
import WmModel.Lemmas.GcSubOrd
namespace Wm.GcProd
open Wm Wm.Lts

/-- blocking mode, before the Pub/Sub signals closing: when a Publish call starts a sender for `me`, every sender that an earlier
    `sendMessage` (of any Publish call) started for `me` has ended in M_sub -/
def SerOk (s : St) : Prop :=
  s.reg.cfg.blocking = true → s.reg.closingSig = false →
    ∀ q, s.sub = some q → ∀ (a b d1 m1 p1 d2 m2 p2 : Nat), a < b →
      s.snd[a]? = some (some d1, m1, p1) → s.snd[b]? = some (some d2, m2, p2) →
        exited q p1 = true ∧ ∀ r2, (p2, r2) ∈ q.exits → GcSub.exitedBefore q p1 p2

theorem exited_idx {q : GcSub.St} {p : Nat} (h : exited q p = true) : ∃ (a : Nat) (r : GcSub.Exit), q.exits[a]? = some (p, r) := by
  simp only [exited, List.any_eq_true, beq_iff_eq] at h
  obtain ⟨⟨p', r⟩, hm, rfl⟩ := h
  obtain ⟨a, ha⟩ := List.getElem?_of_mem hm
  exact ⟨a, r, ha⟩

/-- the conclusion of `SerOk` survives when senders end -/
theorem endedFirst_mono {q q' : GcSub.St} {ext : List (Nat × GcSub.Exit)} (he : q'.exits = q.exits ++ ext) {p1 p2 : Nat}
    (h1 : exited q p1 = true) (h2 : ∀ r2, (p2, r2) ∈ q.exits → GcSub.exitedBefore q p1 p2) :
    exited q' p1 = true ∧ ∀ r2, (p2, r2) ∈ q'.exits → GcSub.exitedBefore q' p1 p2 := by
  have lift : ∀ (k : Nat) (e : Nat × GcSub.Exit), q.exits[k]? = some e → q'.exits[k]? = some e := by
    intro k e hk
    rw [he, List.getElem?_append_left (List.getElem?_eq_some_iff.mp hk).1]; exact hk
  obtain ⟨a, r, ha⟩ := exited_idx h1
  refine ⟨exited_mono he h1, fun r2 hm => ?_⟩
  rw [he, List.mem_append] at hm
  rcases hm with hm | hm
  · obtain ⟨a', b', r1, r2', hab, hx, hy⟩ := h2 r2 hm
    exact ⟨a', b', r1, r2', hab, lift _ _ hx, lift _ _ hy⟩
  · -- `p2` ends now: after every sender that had ended
    obtain ⟨k, hk⟩ := List.getElem?_of_mem hm
    have hlt : a < q.exits.length := (List.getElem?_eq_some_iff.mp ha).1
    refine ⟨a, q.exits.length + k, r, r2, Nat.lt_add_right k hlt, lift _ _ ha, ?_⟩
    rw [he, List.getElem?_append_right (Nat.le_add_right _ k), Nat.add_sub_cancel_left]; exact hk

theorem ser_init (cfg : GcReg.Cfg) : SerOk (init cfg) := by
  intro _ _ q hq; cases hq

/-- the sender list stays; the instance, if it was there, has only seen senders end -/
theorem ser_frame {s s' : St} (h : SerOk s) (hcfg : s'.reg.cfg = s.reg.cfg)
    (hcl : s'.reg.closingSig = false → s.reg.closingSig = false) (hsnd : s'.snd = s.snd)
    (hsome : ∀ q', s'.sub = some q' → (∃ q ext, s.sub = some q ∧ q'.exits = q.exits ++ ext) ∨ s.snd = []) :
    SerOk s' := by
  intro hb hc q' hq' a b d1 m1 p1 d2 m2 p2 hab ha hb'
  rw [hsnd] at ha hb'
  rcases hsome q' hq' with ⟨q, ext, hq, hext⟩ | hemp
  · obtain ⟨k1, k2⟩ := h (hcfg ▸ hb) (hcl hc) q hq a b d1 m1 p1 d2 m2 p2 hab ha hb'
    exact endedFirst_mono hext k1 k2
  · rw [hemp] at ha; cases ha

theorem exited_flag (q : GcSub.St) (f : GcSub.St → GcSub.St) (hf : ∀ q, (f q).exits = q.exits) (p : Nat) :
    exited (f q) p = exited q p := by
  simp only [exited, hf]

/-- blocking mode, before closing: while a Publish call on topic `t` is about to hand over a message (it holds the
    topic's mutex), no dispatcher waits for a subscription of `t` – that dispatcher's Publish call would be inside its
    wait, holding the same mutex -/
theorem no_wait_at_send {r : GcReg.St} {i t m d sid : Nat} {rest : List Nat} {ao : Option (Nat × Nat)}
    (hsl : GcReg.SubLive r) (hrs : GcReg.RsOk r) (htl : GcReg.TlOk r) (hdw : GcReg.DwOk r)
    (hb : r.cfg.blocking = true) (hc : r.closingSig = false) (hth : r.ths[i]? = some (.pub t (m :: rest) .send ao))
    (hin : sid ∈ GcReg.subsOf r t) (hw : sid ∈ r.disp[d]?.getD []) : False := by
  obtain ⟨i', t', r0, ao', hi', j, pc, hj⟩ := hdw hb hc d sid hw
  obtain ⟨j', pc', hj', _⟩ := hsl sid t ((GcReg.mem_subsOf r t sid).mp hin)
  obtain rfl : j = j' := hrs.2.1 j j' t' t sid pc pc' hj hj'
  rw [hj] at hj'; injection hj' with hj'; injection hj' with et _ _
  subst et
  have h1 : (t', i') ∈ r.tlocks := (htl.1 t' i').mpr ⟨_, hi', by simp [GcReg.holdsT]⟩
  have h2 : (t', i) ∈ r.tlocks := (htl.1 t' i).mpr ⟨_, hth, by simp [GcReg.holdsT]⟩
  obtain rfl : i' = i := htl.2 t' i' i h1 h2
  rw [hth] at hi'; cases hi'

theorem ser_step (me cap : Nat) (s s' : St) (a : Action)
    (hex4 : ∀ q, s.sub = some q → ∀ p r, (p, r) ∈ q.exits → p < q.nextPub)
    (hsl : GcReg.SubLive s.reg) (hrs : GcReg.RsOk s.reg) (htl : GcReg.TlOk s.reg) (hdw : GcReg.DwOk s.reg)
    (hl : LinkOk me s) (h : SerOk s) (hact : act me cap s a = some s') : SerOk s' := by
  cases step_of_act hact with
  | sub hq ha hs =>
    obtain ⟨_, ⟨ext, hext⟩, _⟩ := sub_keeps hs
    exact ser_frame h rfl id rfl (fun q' hq' => by cases hq'; exact .inl ⟨_, ext, hq, hext⟩)
  | @reg _ r' _ hr he =>
    obtain ⟨mono, hcfg⟩ := GcReg.closing_mono s.reg r' _ hr
    have hcl : r'.closingSig = false → s.reg.closingSig = false :=
      fun hx => Bool.eq_false_iff.mpr (fun hc => by rw [mono hc] at hx; cases hx)
    have same : SerOk ⟨r', s.sub, s.snd⟩ :=
      ser_frame h hcfg hcl rfl (fun q' hq' => .inl ⟨q', [], hq', (List.append_nil _).symm⟩)
    cases he with
    | senderDone | tlock => exact same
    | other _ hidle =>
      refine ser_frame h hcfg hcl rfl (fun q' hq' => ?_)
      rcases idle_keeps hidle with ⟨_, h0⟩ | ⟨q, q2, hq, hq2, _, ⟨ext, hext⟩, _⟩
      · rw [h0] at hq'; cases hq'
      · rw [hq2] at hq'; cases hq'; exact .inl ⟨q, ext, hq, hext⟩
    | create _ _ ho => exact ser_frame h hcfg hcl rfl (fun _ _ => .inr (hl.empty ho))
    | register =>
      cases hq : s.sub with
      | none => rw [foldl_spawn_none]; rw [hq] at same; exact same
      | some q =>
        -- replay senders have no dispatcher: the entries with one are where they were
        rw [foldl_spawn]
        intro hb hc q' hq' a b d1 m1 p1 d2 m2 p2 hab ha hb'
        cases hq'
        have inold : ∀ {k dd mm pp : Nat} {msgs : List Nat},
            (s.snd ++ started none msgs q.nextPub)[k]? = some (some dd, mm, pp) → s.snd[k]? = some (some dd, mm, pp) := by
          intro k dd mm pp msgs hk
          by_cases hkl : k < s.snd.length
          · rw [List.getElem?_append_left hkl] at hk; exact hk
          · rw [List.getElem?_append_right (Nat.le_of_not_lt hkl)] at hk
            cases started_od (List.mem_of_getElem? hk)
        exact h (hcfg ▸ hb) (hcl hc) q hq a b d1 m1 p1 d2 m2 p2 hab (inold ha) (inold hb')
    | @send i t m _ _ _ _ hth =>
      by_cases hin : me ∈ GcReg.subsOf s.reg t
      · rw [if_pos hin]
        cases hq : s.sub with
        | none => rw [hq] at same; exact same
        | some q =>
          intro hb hc q' hq' a b d1 m1 p1 d2 m2 p2 hab ha hb'
          cases hq'
          have hbc : s.reg.cfg.blocking = true := hcfg ▸ hb
          have ha : (s.snd ++ [(some s.reg.disp.length, m, q.nextPub)])[a]? = some (some d1, m1, p1) := ha
          have hb' : (s.snd ++ [(some s.reg.disp.length, m, q.nextPub)])[b]? = some (some d2, m2, p2) := hb'
          have hblt : b < s.snd.length + 1 := by
            simpa using (List.getElem?_eq_some_iff.mp hb').1
          rw [List.getElem?_append_left (Nat.lt_of_lt_of_le hab (Nat.le_of_lt_succ hblt))] at ha
          by_cases hbl : b < s.snd.length
          · rw [List.getElem?_append_left hbl] at hb'
            exact h hbc (hcl hc) q hq a b d1 m1 p1 d2 m2 p2 hab ha hb'
          · -- the new sender: every earlier one with a dispatcher has ended, or its dispatcher would still wait
            obtain rfl : b = s.snd.length := Nat.le_antisymm (Nat.le_of_lt_succ hblt) (Nat.le_of_not_lt hbl)
            rw [List.getElem?_concat_length] at hb'
            obtain rfl : q.nextPub = p2 := by injection hb' with e; exact congrArg (·.2.2) e
            refine ⟨?_, fun r2 hm => absurd (hex4 q hq _ r2 hm) (Nat.lt_irrefl _)⟩
            exact (hl.pending q hq d1 m1 p1 (List.mem_of_getElem? ha)).resolve_left
              (no_wait_at_send hsl hrs htl hdw hbc (hcl hc) hth hin)
      · rw [if_neg hin]; exact same

end Wm.GcProd
