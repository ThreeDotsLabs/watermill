/-
  One step of M_dec as a relation: `act s a = some s'` taken apart once (`step_of_act`), one constructor per enabled
  branch with its guard and the post-state written out.  The invariants, the potential and never-panics are proved by
  cases on `Step`.
-/
import WmModel.GcDec
import WmModel.Lemmas.ListIdx
namespace Wm.GcDec

theorem init_no_thread {i : Nat} {th : Th} (h : init.ths[i]? = some th) : False := by cases h

theorem act_sub {s : St} {i k : Nat} {pc : SPc} (h : s.ths[i]? = some (.sub k pc)) :
    act s (.step i) = stepSub s i k pc := by simp only [act, h]

theorem act_closer {s : St} {i : Nat} {pc : CPc} (h : s.ths[i]? = some (.closer pc)) :
    act s (.step i) = stepCloser s i pc := by simp only [act, h]

theorem act_pump {s : St} {i k r f d : Nat} {pc : PPc} (h : s.ths[i]? = some (.pump k pc r f d)) :
    act s (.step i) = stepPump s i k pc r f d := by simp only [act, h]

/-- the misuses that make a step of thread `i` a panic of the model -/
inductive Panics (s : St) (i : Nat) : Prop
  /-- `subscribeWg.Add` while a Close call is inside `subscribeWg.Wait` -/
  | addInWait {k j : Nat} (hth : s.ths[i]? = some (.sub k .add)) (hw : s.ths[j]? = some (.closer .wait))
  /-- `close(t.closing)` on a closed channel -/
  | closingTwice (hth : s.ths[i]? = some (.closer .once)) (hod : s.onceDone = false) (hc : s.closing = true)
  /-- `close(out)` on a closed channel -/
  | outTwice {k r f d : Nat} (hth : s.ths[i]? = some (.pump k .closeOut r f d)) (hm : k ∈ s.outClosed)
  /-- `subscribeWg.Done` at zero -/
  | doneAtZero {k r f d : Nat} (hth : s.ths[i]? = some (.pump k .wgDone r f d)) (hz : s.wg = 0)

/-- thread `i` moves from `old` to `new` by action `a`; `g` is `s` with the shared fields as the move leaves them.
    `Step.move` takes the thread table and `panicked` from `s`, so that no move touches `panicked` is read off the
    post-state and needs no case analysis.  Every constructor carries the condition of its branch of `act`; those of
    `subRefused`, `subAdd`, `once`, `closeWait`, `pumpEnd` and `closeOut` serve no proof and are there so that `Step` is
    the transition relation and not a weakening of it. -/
inductive Move (s : St) (i : Nat) : Action → Th → Th → St → Prop
  | deliver {k r f d : Nat} : Move s i (.deliver i) (.pump k .send r f d) (.pump k .recv r (f + 1) d) s
  | subFail {k : Nat} : Move s i (.subFail i) (.sub k .inner) (.sub k .retErr) s
  | subRefused {k : Nat} (hic : s.innerClosed = true) : Move s i (.step i) (.sub k .inner) (.sub k .retErr) s
  | subInner {k : Nat} (hic : s.innerClosed = false) :
      Move s i (.step i) (.sub k .inner) (.sub s.ins.length .lock) { s with ins := s.ins ++ [⟨true, 0⟩] }
  | subLock {k : Nat} (hfree : s.wgLock = none) :
      Move s i (.step i) (.sub k .lock) (.sub k .add) { s with wgLock := some i }
  | subAdd {k : Nat} (hw : s.ths.any isWaiting = false) :
      Move s i (.step i) (.sub k .add) (.sub k .unlock) { s with wg := s.wg + 1 }
  | subUnlock {k : Nat} : Move s i (.step i) (.sub k .unlock) (.sub k .spawn) { s with wgLock := none }
  | closeInner :
      Move s i (.step i) (.closer .inner) (.closer .once)
        { s with innerClosed := true, ins := s.ins.map (fun c => { c with isOpen := false }) }
  | onceSkip (hod : s.onceDone = true) : Move s i (.step i) (.closer .once) (.closer .lock) s
  | once (hod : s.onceDone = false) (hc : s.closing = false) :
      Move s i (.step i) (.closer .once) (.closer .lock) { s with closing := true, onceDone := true }
  | closeLock (hfree : s.wgLock = none) :
      Move s i (.step i) (.closer .lock) (.closer .wait) { s with wgLock := some i }
  | closeWait (hz : s.wg = 0) : Move s i (.step i) (.closer .wait) (.closer .unlock) s
  | closeUnlock : Move s i (.step i) (.closer .unlock) (.closer .ret) { s with wgLock := none }
  | pumpRecv {k r f d : Nat} {c : In} (hc : s.ins[k]? = some c) (hp : 0 < c.pending) :
      Move s i (.step i) (.pump k .recv r f d) (.pump k .send (r + 1) f d)
        { s with ins := s.ins.set k { c with pending := c.pending - 1 } }
  | pumpEnd {k r f d : Nat} {c : In} (hc : s.ins[k]? = some c) (hp : ¬ 0 < c.pending) (ho : c.isOpen = false) :
      Move s i (.step i) (.pump k .recv r f d) (.pump k .closeOut r f d) s
  | pumpDrop {k r f d : Nat} (hc : s.closing = true) :
      Move s i (.step i) (.pump k .send r f d) (.pump k .recv r f (d + 1)) s
  | closeOut {k r f d : Nat} (hm : k ∉ s.outClosed) :
      Move s i (.step i) (.pump k .closeOut r f d) (.pump k .wgDone r f d) { s with outClosed := k :: s.outClosed }
  | wgDone {k r f d : Nat} (hz : s.wg ≠ 0) :
      Move s i (.step i) (.pump k .wgDone r f d) (.pump k .done r f d) { s with wg := s.wg - 1 }

inductive Step : St → Action → St → Prop
  | newSub {s : St} : Step s .newSub { s with ths := s.ths ++ [.sub 0 .inner] }
  | newClose {s : St} : Step s .newClose { s with ths := s.ths ++ [.closer .inner] }
  | push {s : St} {k : Nat} {c : In} (hc : s.ins[k]? = some c) (ho : c.isOpen = true) :
      Step s (.push k) { s with ins := s.ins.set k { c with pending := c.pending + 1 } }
  | inClose {s : St} {k : Nat} {c : In} (hc : s.ins[k]? = some c) :
      Step s (.inClose k) { s with ins := s.ins.set k { c with isOpen := false } }
  | panic {s : St} {i : Nat} (hp : Panics s i) : Step s (.step i) { s with panicked := true }
  | spawn {s : St} {i k : Nat} (hth : s.ths[i]? = some (.sub k .spawn)) :
      Step s (.step i) { s with ths := s.ths.set i (.sub k .retOk) ++ [.pump k .recv 0 0 0] }
  | move {s g : St} {a : Action} {i : Nat} {old new : Th} (hth : s.ths[i]? = some old) (hm : Move s i a old new g) :
      Step s a { g with ths := s.ths.set i new, panicked := s.panicked }

theorem waiting_of_any {l : List Th} (h : l.any isWaiting = true) : ∃ j : Nat, l[j]? = some (Th.closer .wait) := by
  obtain ⟨th, hm, hw⟩ := List.any_eq_true.mp h
  obtain ⟨j, hj⟩ := List.getElem?_of_mem hm
  unfold isWaiting at hw
  split at hw
  · exact ⟨j, hj⟩
  · cases hw

/-- the alternatives come in the order of `act`, `stepSub`, `stepCloser`, `stepPump` -/
theorem step_of_act {s s' : St} {a : Action} (ha : act s a = some s') : Step s a s' := by
  unfold act at ha
  split at ha
  · cases ha; exact .newSub
  · cases ha; exact .newClose
  · split at ha
    · rename_i c hc
      split at ha
      · cases ha; exact .push hc ‹_›
      · cases ha
    · cases ha
  · split at ha
    · cases ha; exact .inClose ‹_›
    · cases ha
  · split at ha
    · cases ha; exact .move ‹_› .deliver
    · cases ha
  · split at ha
    · cases ha; exact .move ‹_› .subFail
    · cases ha
  · rename_i i
    split at ha
    · rename_i k pc hth
      unfold stepSub at ha
      split at ha
      · split at ha
        · cases ha; exact .move hth (.subRefused ‹_›)
        · cases ha; exact .move hth (.subInner (Bool.eq_false_iff.mpr ‹_›))
      · split at ha
        · cases ha; exact .move hth (.subLock (Option.isNone_iff_eq_none.mp ‹_›))
        · cases ha
      · split at ha
        · cases ha
          obtain ⟨j, hj⟩ := waiting_of_any ‹_›
          exact .panic (.addInWait hth hj)
        · cases ha; exact .move hth (.subAdd (Bool.eq_false_iff.mpr ‹_›))
      · cases ha; exact .move hth .subUnlock
      · cases ha; exact .spawn hth
      all_goals cases ha
    · rename_i pc hth
      unfold stepCloser at ha
      split at ha
      · cases ha; exact .move hth .closeInner
      · split at ha
        · cases ha; exact .move hth (.onceSkip ‹_›)
        · rename_i hod
          split at ha
          · cases ha; exact .panic (.closingTwice hth (Bool.eq_false_iff.mpr hod) ‹_›)
          · cases ha; exact .move hth (.once (Bool.eq_false_iff.mpr hod) (Bool.eq_false_iff.mpr ‹_›))
      · split at ha
        · cases ha; exact .move hth (.closeLock (Option.isNone_iff_eq_none.mp ‹_›))
        · cases ha
      · split at ha
        · cases ha; exact .move hth (.closeWait ‹_›)
        · cases ha
      · cases ha; exact .move hth .closeUnlock
      · cases ha
    · rename_i k pc r f d hth
      unfold stepPump at ha
      split at ha
      · split at ha
        · rename_i c hc
          split at ha
          · cases ha; exact .move hth (.pumpRecv hc ‹_›)
          · rename_i hp
            split at ha
            · cases ha
            · cases ha; exact .move hth (.pumpEnd hc hp (Bool.eq_false_iff.mpr ‹_›))
        · cases ha
      · split at ha
        · cases ha; exact .move hth (.pumpDrop ‹_›)
        · cases ha
      · split at ha
        · cases ha; exact .panic (.outTwice hth (List.contains_iff_mem.mp ‹_›))
        · cases ha; exact .move hth (.closeOut (fun hm => ‹¬ _› (List.contains_iff_mem.mpr hm)))
      · split at ha
        · cases ha; exact .panic (.doneAtZero hth ‹_›)
        · cases ha; exact .move hth (.wgDone ‹_›)
      · cases ha
    · cases ha
end Wm.GcDec
