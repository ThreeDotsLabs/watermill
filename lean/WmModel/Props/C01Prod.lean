/-
  C01 – hypothesis H3 of the pipeline model ("a `Publish` that hands a message over starts one sender for every
  subscription registered on the topic, i.e. creates one `pending` token there – and nothing elsewhere") *derived* on the
  composition M_prod = M_reg ∥ M_sub (WmModel/GcProd.lean; tied to the code by the M_prod conformance instance on merged
  registry + subscription streams): the hand-over step of a Publish thread, for a subscription `me` that is registered
  for the topic, leaves `me`'s subscription with a NEW publication whose token – read off the M_sub state as in
  `Props/C01Sub.lean` – is `pending`; for a subscription of another topic nothing changes.
  With `sub_step_refines_token` (the token then moves only along the pipeline model's edges) and `stage_effect_eq_realEff`
  (H1) all three per-stage hypotheses of `Props/C01.lean` are now theorems about the tied models.
-/
import WmModel.Props.C04Prod
import WmModel.Props.C01Sub
namespace Wm.GcProd
open Wm Wm.Lts
open Wm.GcSub (TokIs Acked InHand)

/-- a publication number that no copy carries yet has a `pending` token once its sender is queued -/
theorem fresh_publication_is_pending (cap : Nat) (q : GcSub.St) (hq : Reach (GcSub.sys cap) q) :
    TokIs (spawnSt q) q.nextPub (some .pending) ∧ q.nextPub ∈ (spawnSt q).waiting := by
  have fresh : ∀ (i : Nat) (cp : GcSub.Copy), q.copies[i]? = some cp → cp.pub ≠ q.nextPub :=
    fun i cp hi hp => Nat.lt_irrefl _ (hp ▸ (GcSub.reach_red cap q hq).2.2.2.2 i cp hi)
  exact ⟨⟨fun ⟨i, cp, hi, hp, _⟩ => fresh i cp hi hp, fun ⟨i, cp, hi, hp, _⟩ => fresh i cp hi hp⟩,
    List.mem_append_right _ (List.mem_singleton_self _)⟩

/-- **H3 derived**: the hand-over step of `Publish(t, m …)` while `me` is registered for `t` creates a pending token for a
    new publication in `me`'s subscription (and records which message it carries) -/
theorem publish_creates_pending_token (me cap : Nat) (cfg : GcReg.Cfg) (s s' : St) (h : Reach (sys me cap cfg) s)
    (i t m : Nat) (rest : List Nat) (ao : Option (Nat × Nat))
    (hth : s.reg.ths[i]? = some (.pub t (m :: rest) .send ao)) (hsub : (me, t) ∈ s.reg.subs)
    (hact : act me cap s (.reg (.step i)) = some s') :
    ∃ q, s.sub = some q ∧ s'.sub = some (spawnSt q) ∧
      TokIs (spawnSt q) q.nextPub (some .pending) ∧
      s'.snd = s.snd ++ [(some s.reg.disp.length, m, q.nextPub)] ∧
      (∀ p, p < q.nextPub → ∀ x, TokIs q p x → TokIs (spawnSt q) p x) := by
  obtain ⟨q, hq, hq', hsnd⟩ := send_starts_sender_for_registered me cap cfg s s' h i t m rest ao hth hsub hact
  have hr := reach_sub me cap cfg s h q hq
  refine ⟨q, hq, hq', (fresh_publication_is_pending cap q hr).1, hsnd, ?_⟩
  intro p _ x hx
  -- spawnSt does not touch the copies: every other token is where it was
  cases x with
  | none => exact hx
  | some ph => cases ph <;> exact hx

/-- … and only there: a subscription of another topic keeps all its tokens -/
theorem publish_creates_nothing_elsewhere (me cap : Nat) (cfg : GcReg.Cfg) (s s' : St) (h : Reach (sys me cap cfg) s)
    (i t t' m : Nat) (rest : List Nat) (ao : Option (Nat × Nat))
    (hth : s.reg.ths[i]? = some (.pub t (m :: rest) .send ao)) (hsub : (me, t') ∈ s.reg.subs) (hne : t' ≠ t)
    (hact : act me cap s (.reg (.step i)) = some s') : s'.sub = s.sub :=
  (send_starts_nothing_for_other_topics me cap cfg s s' h i t t' m rest ao hth hsub hne hact).1

end Wm.GcProd
