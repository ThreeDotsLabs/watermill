/-
  C19 – generated tie: the bodies of the closures of Timeout, InstantAck, Throttle.Middleware,
  DelayOnError.Middleware and of DelayOnError.applyDelay, extracted from the current Go source and
  interpreted (`WmModel/GoMw.lean`), equal the hand-written model for every wrapped handler, every message
  state and every configuration.  `WmModel/Gen/MwBody.lean` is rewritten by the extractor on every run.
  Proofs split the input where the interpreter consults it; then both sides compute: `rfl` after a split into
  constructors, `simp` with the interpreter's equations where the case is a hypothesis about an opaque test.
-/
import WmModel.GoMw
import WmModel.Gen.MwBody
namespace Wm.GoMw
open Wm.Mw

theorem extracted_timeout_eq_model (e : Bool) (c : DelayCfg) (h : Handler) (st : St) :
    execW e c Gen.timeoutBody {} h st = some (timeout e h st) := rfl

theorem extracted_instantAck_eq_model (e : Bool) (c : DelayCfg) (h : Handler) (st : St) :
    execW e c Gen.instantAckBody {} h st = some (instantAck h st) := rfl

theorem extracted_throttle_eq_model (e : Bool) (c : DelayCfg) (h : Handler) (st : St) :
    execW e c Gen.throttleBody {} h st = some (throttle h st) := rfl

theorem extracted_delayMw_eq_model (e : Bool) (c : DelayCfg) (h : Handler) (st : St) :
    execW e c Gen.delayMwBody {} h st = some (delayOnError c h st) := by
  rw [Gen.delayMwBody, execW, delayOnError]
  rcases h st with ⟨⟨outs, _ | err⟩ | v, st'⟩ <;> rfl

theorem extracted_applyDelay_eq_model (c : DelayCfg) (d : Delay) :
    execD c Gen.applyDelayBody d = some (applyDelay c d) := by
  cases d with
  | absent => rfl
  | raw s => rfl
  | ns n =>
    -- the one test the interpreter cannot decide by computing
    by_cases hgt : n * c.num / c.den > c.max <;>
      simp only [Gen.applyDelayBody, execD, execDs, execD1, applyDelay, hgt, if_true, if_false]

end Wm.GoMw
