/-
  C19 – Simple middlewares change only what they document and only during the call.
  Model: `WmModel/Middleware.lean`; lemmas: `WmModel/Lemmas/Mw.lean`.

  Every transparency theorem quantifies over *every* wrapped handler `h : St → Res × St` (any function:
  any outputs, any error incl. wrapped ones, any panic value incl. nil, any change it makes to the message)
  and every message state.  `apply m h` is the middleware `m` of the code around `h`.
-/
import WmModel.Middleware
import WmModel.Lemmas.Mw
namespace Wm.Mw

/-- a concrete message state used by the non-vacuity examples -/
def exSt (script : List Res) : St := ⟨⟨0, false, false, false⟩, [(cidKey, "id-7"), ("k", "v")], .absent, false, false, 0, script, [], none, false⟩

/-- **Timeout is transparent**: the result is exactly what the handler returns (or panics with) when it is
    called on the message carrying the derived context; everything the handler did to the message stays,
    except that the context is put back. -/
theorem timeout_transparent (e : Bool) (h : Handler) (st : St) :
    (apply (.timeout e) h st).1 = (h { st with ctx := deriveCtx st.ctx e }).1 ∧
    (apply (.timeout e) h st).2 = { (h { st with ctx := deriveCtx st.ctx e }).2 with ctx := st.ctx } :=
  ⟨rfl, rfl⟩

/-- **a deadline is visible during the call and the context is restored after it** – whatever the handler
    does (returns, fails, panics, even replaces the context itself): the handler runs under a fresh child
    context that carries a deadline, and the context of the message after the call is the context before
    the call, so it is done afterwards only if it was done before. -/
theorem timeout_deadline_visible_and_restored (e : Bool) (h : Handler) (st : St) :
    (deriveCtx st.ctx e).deadline = true ∧
    (deriveCtx st.ctx e).far = false ∧
    (deriveCtx st.ctx e) ≠ st.ctx ∧
    (apply (.timeout e) h st).2.ctx = st.ctx ∧
    ((apply (.timeout e) h st).2.ctx.done = true → st.ctx.done = true) :=
  ⟨rfl, rfl, fun hc => absurd (congrArg Ctx.depth hc) (Nat.succ_ne_self _), rfl, id⟩

example : (apply (.timeout false) scripted (exSt [.panic .nil])) =
    (.panic .nil, { exSt [.panic .nil] with log := [⟨true, false, false, .absent, false, false⟩] }) := by decide +kernel

/-- a caller-set deadline beyond Timeout's horizon: during the call the handler sees Timeout's (nearer) deadline; two
    Timeouts in one chain: the inner, already expired one decides -/
example : (apply (.timeout false) scripted { exSt [.ret [] none] with ctx := ⟨0, true, false, true⟩ }).2.log = [⟨true, false, false, .absent, false, false⟩] ∧
    (run [.timeout false, .timeout true] scripted (exSt [.ret [] none])).2.log = [⟨true, true, false, .absent, false, false⟩] := by
  decide +kernel

/-- witness of D2 (the unrepaired Timeout): the context is left done, and `Retry` around it stops after one
    attempt where its own rule gives three -/
theorem Old.timeout_leaves_context_done :
    (Old.timeout false scripted (exSt [.ret [] none])).2.ctx.done = true ∧
    (runC true [.retry 2] (Old.timeout false scripted) (exSt [.ret [] (some (.base "x"))])).2.log.length = 1 ∧
    (run [.retry 2, .timeout false] scripted (exSt [.ret [] (some (.base "x"))])).2.log.length = 3 := by decide +kernel

/-- **CorrelationID is transparent**: error and panic pass unchanged, the message is exactly as the handler
    left it, the outputs are the handler's outputs, in order, each passed through `SetCorrelationID` with the
    id the incoming message carries when the handler returns. -/
theorem correlation_transparent (h : Handler) (st : St) :
    (apply .correlation h st).2 = (h st).2 ∧
    (∀ v, (h st).1 = .panic v → (apply .correlation h st).1 = .panic v) ∧
    (∀ outs err, (h st).1 = .ret outs err →
      (apply .correlation h st).1 = .ret (outs.map (setCid (mget (h st).2.md cidKey))) err) := by
  simp only [applyC, correlation]
  rcases h st with ⟨_ | _, st'⟩ <;> simp

/-- **the correlation id is copied to outputs that lack one and never overwritten**: same number of outputs,
    same uuids; an output whose `Get("correlation_id")` is non-empty is untouched; one that lacks it gets the
    incoming id under that key and keeps every other key.  (Settled reading: "lacks" = `Get(...) == ""`; the
    key is set even when the incoming id is itself empty.) -/
theorem correlation_copied_not_overwritten (h : Handler) (st : St) (outs : List Out) (err : Option Err)
    (hr : (h st).1 = .ret outs err) :
    ∃ outs', (apply .correlation h st).1 = .ret outs' err ∧ outs'.length = outs.length ∧
      ∀ i (hi : i < outs.length) (hi' : i < outs'.length),
        (outs'[i]).id = (outs[i]).id ∧
        (mget (outs[i]).md cidKey ≠ "" → outs'[i] = outs[i]) ∧
        (mget (outs[i]).md cidKey = "" → mget (outs'[i]).md cidKey = mget (h st).2.md cidKey) ∧
        (∀ k, k ≠ cidKey → mget (outs'[i]).md k = mget (outs[i]).md k) := by
  refine ⟨outs.map (setCid (mget (h st).2.md cidKey)), (correlation_transparent h st).2.2 outs err hr, by simp, ?_⟩
  intro i hi hi'
  simp only [List.getElem_map]
  exact setCid_spec _ _

example : (apply .correlation scripted (exSt [.ret [⟨"a", [("x", "1")]⟩, ⟨"b", [(cidKey, "own")]⟩, ⟨"c", [(cidKey, "")]⟩] none])).1 =
    .ret [⟨"a", [("x", "1"), (cidKey, "id-7")]⟩, ⟨"b", [(cidKey, "own")]⟩, ⟨"c", [(cidKey, "id-7")]⟩] none := by decide +kernel

/-- **a panic never escapes and the error carries the panic value** (any value, `nil` included) -/
theorem recoverer_never_escapes (h : Handler) (st : St) :
    (∀ v, (apply .recoverer h st).1 ≠ .panic v) ∧
    (∀ v, (h st).1 = .panic v → (apply .recoverer h st).1 = .ret [] (some (.recovered v))) := by
  simp only [applyC, recoverer]
  rcases h st with ⟨_ | _, st'⟩ <;> simp

/-- **Recoverer is transparent** on everything that is not a panic, and never touches the message -/
theorem recoverer_transparent (h : Handler) (st : St) :
    (apply .recoverer h st).2 = (h st).2 ∧
    (∀ outs err, (h st).1 = .ret outs err → (apply .recoverer h st).1 = .ret outs err) := by
  simp only [applyC, recoverer]
  rcases h st with ⟨_ | _, st'⟩ <;> simp

example : (apply .recoverer scripted (exSt [.panic .nil])).1 = .ret [] (some (.recovered .nil)) := by decide +kernel
example : (apply .recoverer scripted (exSt [.panic (.str "boom")])).1 = .ret [] (some (.recovered (.str "boom"))) := by decide +kernel

/-- an error is *listed* when the text of its `pkg/errors` cause is one of the configured texts -/
def listed (l : List String) (e : Err) : Prop := ∃ t, e.cause.text = some t ∧ t ∈ l

/-- on a failure IgnoreErrors decides by `listed` -/
theorem ignoreErrors_err (l : List String) (h : Handler) (st st' : St) (outs : List Out) (e : Err)
    (hx : h st = (.ret outs (some e), st')) :
    (ignoreErrors l h st).2 = st' ∧
    (listed l e → (ignoreErrors l h st).1 = .ret outs none) ∧
    (¬ listed l e → (ignoreErrors l h st).1 = .ret outs (some e)) := by
  simp only [ignoreErrors, hx, listed]
  cases e.cause.text with
  | none => simp
  | some t => by_cases ht : t ∈ l <;> simp [ht]

/-- **listed errors become success, nothing else changes**: outputs are kept in both cases, an unlisted
    error, a success and a panic pass unchanged, the message is as the handler left it. -/
theorem ignore_errors_only_listed (l : List String) (h : Handler) (st : St) :
    (apply (.ignoreErrors l) h st).2 = (h st).2 ∧
    (∀ outs e, (h st).1 = .ret outs (some e) → listed l e → (apply (.ignoreErrors l) h st).1 = .ret outs none) ∧
    (∀ outs e, (h st).1 = .ret outs (some e) → ¬ listed l e → (apply (.ignoreErrors l) h st).1 = .ret outs (some e)) ∧
    (∀ outs, (h st).1 = .ret outs none → (apply (.ignoreErrors l) h st).1 = .ret outs none) ∧
    (∀ v, (h st).1 = .panic v → (apply (.ignoreErrors l) h st).1 = .panic v) := by
  rcases hx : h st with ⟨⟨outs, _ | e⟩ | v, st'⟩
  · simp [applyC, ignoreErrors, hx]
  · obtain ⟨h0, h1, h2⟩ := ignoreErrors_err l h st st' outs e hx
    refine ⟨h0, fun _ _ hr hl => ?_, fun _ _ hr hl => ?_, fun _ hr => ?_, fun _ hr => ?_⟩ <;> cases hr
    · exact h1 hl
    · exact h2 hl
  · simp [applyC, ignoreErrors, hx]

/-- the match sees through `pkg/errors` wrapping only: `fmt.Errorf("%w")` wrapping is compared with its
    own full text, a recovered panic never matches -/
theorem ignore_errors_cause (m : String) (e : Err) (t : String) (v : PVal) :
    (Err.pkgWrap m e).cause = e.cause ∧ (Err.fmtWrap m e).cause = Err.fmtWrap m e ∧
    (Err.base t).cause = Err.base t ∧ ∀ l, ¬ listed l (.recovered v) := by
  refine ⟨rfl, rfl, rfl, ?_⟩
  intro l ⟨t, ht, _⟩
  simp [Err.cause, Err.text] at ht

example : (apply (.ignoreErrors ["boom"]) scripted (exSt [.ret [⟨"a", []⟩] (some (.pkgWrap "ctx" (.base "boom")))])).1 =
    .ret [⟨"a", []⟩] none := by decide +kernel
example : (apply (.ignoreErrors ["boom"]) scripted (exSt [.ret [] (some (.fmtWrap "ctx" (.base "boom")))])).1 =
    .ret [] (some (.fmtWrap "ctx" (.base "boom"))) := by decide +kernel

/-- errors and panic values of non-comparable dynamic types are results like any other: an unlisted one passes unchanged,
    a listed one (by its text) becomes success, a panic with such a value is recovered into an error carrying it and that
    error passes an IgnoreErrors above the Recoverer -/
example : (apply (.ignoreErrors ["boom"]) scripted (exSt [.ret [] (some (.ubase "fields"))])).1 = .ret [] (some (.ubase "fields")) ∧
    (apply (.ignoreErrors ["fields"]) scripted (exSt [.ret [⟨"a", []⟩] (some (.pkgWrap "ctx" (.ubase "fields")))])).1 = .ret [⟨"a", []⟩] none ∧
    (run [.ignoreErrors ["boom"], .recoverer] scripted (exSt [.panic (.list "boom")])).1 = .ret [] (some (.recovered (.list "boom"))) := by
  decide +kernel

/-- **Ack before the call**: the handler is invoked on the message after `Ack()` – acknowledged, unless a Nack had been
    sent on it before (then `Ack()` changes nothing) – and that is all: the handler is called in both cases and its
    result is the chain's. -/
theorem instant_ack_before_call (h : Handler) (st : St) :
    apply .instantAck h st = h (ackMsg st) ∧
    (st.nacked = false → (ackMsg st) = { st with acked := true } ∧ (ackMsg st).acked = true) ∧
    (st.nacked = true → ackMsg st = st) := by
  refine ⟨rfl, ?_, ?_⟩ <;> intro hn <;> simp [ackMsg, hn]

/-- **Throttle is transparent**: it waits for one tick, then the handler's result and effects are the chain's -/
theorem throttle_transparent (h : Handler) (st : St) :
    apply .throttle h st = h { st with ticks := st.ticks + 1 } := rfl

/-- **a closed CircuitBreaker is transparent** (results, errors and panics alike) -/
theorem breaker_transparent (h : Handler) (st : St) : apply .breaker h st = h st := rfl

example : (apply .instantAck scripted (exSt [.ret [] none])).2.log = [⟨false, false, true, .absent, false, false⟩] := by decide +kernel

/-- a message that was nacked before it reaches InstantAck: the handler is still called, its result passes unchanged, the
    message stays as it was; under Retry the handler gets Retry's own number of attempts -/
example : (apply .instantAck scripted { exSt [.ret [⟨"a", []⟩] none] with nacked := true }).1 = .ret [⟨"a", []⟩] none ∧
    (apply .instantAck scripted { exSt [.ret [] none] with nacked := true }).2.log = [⟨false, false, false, .absent, false, true⟩] ∧
    (run [.retry 2, .instantAck] scripted { exSt [.ret [] (some (.base "x"))] with nacked := true }).2.log.length = 3 := by
  decide +kernel

/-- a message whose context is already done (cancelled, or under a Timeout outside the Throttle that expired) still
    takes its tick: the handler is started on the state with one more tick consumed, whatever the context -/
theorem throttle_takes_tick_whatever_the_context (h : Handler) (st : St) :
    (apply .throttle h st) = h { st with ticks := st.ticks + 1 } ∧
    run [.timeout true, .throttle] h st =
      ((h { st with ctx := deriveCtx st.ctx true, ticks := st.ticks + 1 }).1,
       { (h { st with ctx := deriveCtx st.ctx true, ticks := st.ticks + 1 }).2 with ctx := st.ctx }) := by
  constructor <;> rfl

example : (run [.timeout true, .throttle] scripted (exSt [.ret [] none])).2.ticks = 1 ∧
    (run [.timeout true, .throttle] scripted (exSt [.ret [] none])).2.log = [⟨true, true, false, .absent, false, false⟩] := by decide +kernel

/-- candidate finding "breaker+panicnil": with the legacy behaviour of the library a handler's `panic(nil)` is reported as
    success, where the transparent breaker of the model (and of the statement) lets the panic through -/
theorem Legacy.breaker_swallows_nil_panic :
    (Legacy.breaker scripted (exSt [.panic .nil])).1 = .ret [] none ∧
    (Wm.Mw.apply .breaker scripted (exSt [.panic .nil])).1 = .panic .nil ∧
    (Legacy.breaker scripted (exSt [.panic (.str "x")])).1 = .panic (.str "x") := by decide +kernel

/-- **handler starts no faster than the configured rate**, over the abstract one-slot ticker of period `d` with punctual
    timers: in every run the ticker admits, `n` further starts after the `i`-th take at least `(n-1)·d`; hence a
    window of length `L` contains at most `L/d + 2` starts (one tick may wait in the slot).  Without the punctuality
    assumption see `throttle_lifetime_rate`. -/
theorem throttle_rate (d : Nat) (run : List Start) (hv : validRun d run = true) (i n : Nat) (hn : 1 ≤ n)
    (hin : i + n < run.length) :
    (run[i]'(by omega)).time + (n - 1) * d ≤ (run[i + n]).time := by
  have hv' := validRun_drop d run hv i
  rw [List.drop_eq_getElem_cons (by omega : i < run.length)] at hv'
  have h := validRun_spacing d _ _ hv' (n - 1) (by rw [List.length_drop]; omega)
  rw [List.getElem_drop] at h
  have e : i + 1 + (n - 1) = i + n := by omega
  simpa only [e] using h

theorem throttle_window_count (d : Nat) (hd : 0 < d) (run : List Start) (hv : validRun d run = true) (i n L : Nat)
    (hin : i + n < run.length) (hw : (run[i + n]).time ≤ (run[i]'(by omega)).time + L) :
    n + 1 ≤ L / d + 2 := by
  cases n with
  | zero => exact Nat.le_add_left 1 _
  | succ n =>
    -- `n` periods fit between the two ends of the window
    have h := throttle_rate d run hv i (n + 1) (Nat.le_add_left 1 n) hin
    rw [Nat.add_sub_cancel] at h
    have hL : n * d ≤ L := Nat.le_of_add_le_add_left (Nat.le_trans h hw)
    exact Nat.add_le_add_right ((Nat.le_div_iff_mul_le hd).mpr hL) 2

/-- the rate over the life of the ticker, without assuming punctual timers: the n-th handler start happens no earlier
    than `n·d` after the ticker was created (n starts need n distinct ticks, none delivered before its nominal time);
    hence at most `t/d` starts in the first `t` time units.  This is the inequality the harness samples on the real clock. -/
theorem throttle_lifetime_rate (d : Nat) (run : List Start) (hv : laxRun d run = true) (n : Nat) (hn : n < run.length) :
    (n + 1) * d ≤ (run[n]).time := by
  cases run with
  | nil => cases hn
  | cons a l =>
    -- `n+1` starts need `n+1` distinct ticks, the first of index ≥ 1, and start `n` waited for its tick to fire
    have h1 := (laxRun_head d a l hv).1
    exact Nat.le_trans (Nat.mul_le_mul_right d (by omega)) (laxRun_nth d a l hv n hn)

theorem throttle_valid_is_lax (d : Nat) (run : List Start) (hv : validRun d run = true) : laxRun d run = true :=
  laxRun_of_validRun d run hv

/-- a late timer: tick 2 (nominal time 20) is delivered at 109, right after an idle receiver took tick 1 at 108 – admitted
    by `laxRun`, excluded by the punctual `validRun` -/
example : laxRun 10 [⟨108, 1⟩, ⟨109, 2⟩, ⟨110, 11⟩] = true ∧ validRun 10 [⟨108, 1⟩, ⟨109, 2⟩, ⟨110, 11⟩] = false := by decide +kernel

/-- the deterministic ticker model yields admissible runs for all request times -/
theorem throttle_model_admissible (d : Nat) (hd : 0 < d) (reqs : List Nat) (ps pt : Nat) :
    validRun d (throttleRun d ps pt reqs) = true := by
  induction reqs generalizing ps pt with
  | nil => rfl
  | cons r rest ih =>
    have hi : 1 ≤ max (pt + 1) ((ps + d - 1) / d) := Nat.le_trans (Nat.le_add_left 1 pt) (Nat.le_max_left ..)
    cases rest with
    | nil => exact (Bool.and_eq_true ..).mpr ⟨decide_eq_true hi, decide_eq_true (Nat.le_max_right ..)⟩
    | cons r2 rest2 =>
      -- the next start is no earlier than this one, consumes a later tick, and that tick fires no earlier than this start
      refine (validRun_cons_cons ..).mpr ⟨⟨hi, Nat.le_max_right ..⟩, ⟨?_, ?_, ?_⟩, ih _ _⟩
      · exact Nat.le_trans (Nat.le_max_right ..) (Nat.le_max_left ..)
      · exact Nat.lt_of_lt_of_le (Nat.lt_succ_self _) (Nat.le_max_left ..)
      · exact Nat.le_trans (ceil_mul_ge _ d hd) (Nat.mul_le_mul_right d (Nat.le_max_right ..))

/-- non-vacuity: after an idle phase two starts are closer than one period (the `+2`), then one per period -/
example : throttleRun 10 0 0 [57, 57, 57, 57] = [⟨57, 1⟩, ⟨60, 6⟩, ⟨70, 7⟩, ⟨80, 8⟩] := by decide +kernel
example : validRun 10 [⟨57, 1⟩, ⟨60, 6⟩, ⟨70, 7⟩, ⟨80, 8⟩] = true := by decide +kernel

/-- **DelayOnError is transparent and leaves successes untouched**: outputs, error and panic are the handler's;
    after a success or a panic the message is exactly as the handler left it; after an error only the two
    delay keys differ. -/
theorem delay_transparent (c : DelayCfg) (h : Handler) (st : St) :
    (apply (.delayOnError c) h st).1 = (h st).1 ∧
    (∀ outs, (h st).1 = .ret outs none → (apply (.delayOnError c) h st).2 = (h st).2) ∧
    (∀ v, (h st).1 = .panic v → (apply (.delayOnError c) h st).2 = (h st).2) ∧
    (∀ outs e, (h st).1 = .ret outs (some e) →
      (apply (.delayOnError c) h st).2 =
        { (h st).2 with delay := .ns (applyDelay c (h st).2.delay), until_ := true }) := by
  simp only [applyC, delayOnError]
  rcases h st with ⟨⟨outs, _ | e⟩ | v, st'⟩ <;> simp

/-- **the recurrence**: a failure on a message without usable delay metadata writes `InitialInterval`; a
    failure on a message delayed for `d` writes `min(⌊d·Multiplier⌋, MaxInterval)`; hence the k-th failure in
    a row writes `delayAt c (k-1)` and a success writes nothing. -/
theorem delay_recurrence (c : DelayCfg) :
    applyDelay c .absent = c.init ∧ (∀ s, applyDelay c (.raw s) = c.init) ∧
    (∀ d, applyDelay c (.ns d) = min (d * c.num / c.den) c.max) ∧
    delayAt c 0 = c.init ∧ (∀ j, delayAt c (j + 1) = min (delayAt c j * c.num / c.den) c.max) ∧
    (∀ d, delayStep c d false = d) := by
  refine ⟨rfl, fun _ => rfl, applyDelay_ns c, rfl, ?_, fun _ => rfl⟩
  intro j
  rw [delayAt, applyDelay_ns]

/-- the metadata after each call of a run of `n` failures on a fresh message is `delayAt c 0, …, delayAt c (n-1)` -/
theorem delay_seq_failures (c : DelayCfg) (n : Nat) :
    delaySeq c .absent (List.replicate n true) = (List.range n).map (fun j => Delay.ns (delayAt c j)) := by
  -- from any metadata `d` on which the next failure writes `delayAt c j`
  have G : ∀ n d j, applyDelay c d = delayAt c j →
      delaySeq c d (List.replicate n true) = (List.range' j n).map (fun i => Delay.ns (delayAt c i)) := by
    intro n
    induction n with
    | zero => intros; rfl
    | succ n ih =>
      intro d j hd
      rw [List.replicate_succ, List.range'_succ, List.map_cons, ← hd,
        ← ih (.ns (applyDelay c d)) (j + 1) (by rw [hd]; rfl)]
      rfl
  rw [List.range_eq_range']
  exact G n .absent 0 rfl

/-- **closed form** (guard of finding D17: `InitialInterval ≤ MaxInterval`; Multiplier = num/den ≥ 1):
    the k-th consecutive failure (k = j+1) writes `D = min(u_j, MaxInterval)` where `u_j` is `Initial·m^j`
    rounded down to whole nanoseconds at each of the `j` multiplications; scaled by `den^j`:
      `D·den^j ≤ min(Initial·num^j, Max·den^j) ≤ D·den^j + g_j`,
    i.e. `D ≤ min(Initial·m^j, Max) ≤ D + g_j/den^j` with `g_j/den^j < (m^j−1)/(m−1)` ns (`delay_gap_bound`),
    and with equality for integer multipliers. -/
theorem delay_closed_form_bound_partial (c : DelayCfg) (hq : 0 < c.den) (hpq : c.den ≤ c.num)
    (hguard : c.init ≤ c.max) (j : Nat) :
    delayAt c j = min (uncapped c j) c.max ∧
    delayAt c j * c.den ^ j ≤ min (c.init * c.num ^ j) (c.max * c.den ^ j) ∧
    min (c.init * c.num ^ j) (c.max * c.den ^ j) ≤ delayAt c j * c.den ^ j + gapBound c j ∧
    (c.den = 1 → delayAt c j = min (c.init * c.num ^ j) c.max) := by
  have h1 : delayAt c j = min (uncapped c j) c.max := by
    cases j with
    | zero => exact (Nat.min_eq_left hguard).symm
    | succ j => exact delayAt_succ_eq_min c hq hpq j
  have h2 := min_scaled _ c.max _ _ _ (uncapped_le c j) (uncapped_ge c hq j)
  rw [h1]
  exact ⟨rfl, h2.1, h2.2, fun h1q => by rw [uncapped_int c h1q]⟩

/- The full statement (no guard) is false for j = 0, see `delay_first_uncapped_witness`:
     ∀ c j, delayAt c j * den^j ≤ min (init * num^j) (max * den^j)
   Missing part: the first delay is not capped (finding D17, pattern "initial>max"). -/

/-- without the guard the closed form still holds from the second failure on -/
theorem delay_capped_from_second (c : DelayCfg) (hq : 0 < c.den) (hpq : c.den ≤ c.num) (j : Nat) :
    delayAt c (j + 1) = min (uncapped c (j + 1)) c.max ∧ delayAt c (j + 1) ≤ c.max := by
  have h := delayAt_succ_eq_min c hq hpq j
  exact ⟨h, h ▸ Nat.min_le_right ..⟩

/-- **finding D17** (open): with `InitialInterval > MaxInterval` the first failure writes `InitialInterval`,
    which exceeds `min(InitialInterval·Multiplier^0, MaxInterval)` -/
theorem delay_first_uncapped_witness :
    ∃ c : DelayCfg, 0 < c.den ∧ c.den ≤ c.num ∧ c.init > c.max ∧
      ¬ (delayAt c 0 * c.den ^ 0 ≤ min (c.init * c.num ^ 0) (c.max * c.den ^ 0)) :=
  ⟨⟨5000, 1000, 2, 1⟩, by decide +kernel⟩

/-- the rounding bound vanishes for integer multipliers; in general `g j · (num − den) = (den − 1)·(num^j − den^j)`,
    written without subtraction of powers, i.e. `g j / den^j = ((den−1)/den) · (m^j − 1)/(m − 1) < (m^j − 1)/(m − 1)` ns -/
theorem delay_gap_bound (c : DelayCfg) (j : Nat) :
    (c.den = 1 → gapBound c j = 0) ∧
    (∀ t, c.num = c.den + t → gapBound c j * t + (c.den - 1) * c.den ^ j = (c.den - 1) * c.num ^ j) := by
  refine ⟨fun hq => ?_, fun t ht => ?_⟩
  · induction j with
    | zero => rfl
    | succ j ih => simp [gapBound, ih, hq]
  · induction j with
    | zero => simp [gapBound]
    | succ j ih =>
      -- multiply the claim for `j` by `num`; what is left is an identity of polynomials
      rw [Nat.pow_succ c.num, ← Nat.mul_assoc, ← ih, gapBound, Nat.pow_succ, ht]
      generalize c.den - 1 = a
      generalize c.den ^ j = Q
      generalize gapBound c j = g
      grind

/-- fractional multipliers: 1 s, 1.5 s, 2.25 s, 3.375 s, then the cap -/
example : (List.range 6).map (delayAt ⟨1000000000, 4000000000, 3, 2⟩) =
    [1000000000, 1500000000, 2250000000, 3375000000, 4000000000, 4000000000] := by decide +kernel
/-- rounding to whole nanoseconds: 7 ns · 2.5 = 17 (17.5), · 2.5 = 42 (43.75): within the bound g_2/4 -/
example : (List.range 3).map (delayAt ⟨7, 100, 5, 2⟩) = [7, 17, 42] ∧ gapBound ⟨7, 100, 5, 2⟩ 2 = 7 := by decide +kernel

/-- witness of D3 (the unrepaired multiplication): Multiplier 1.5 was truncated to 1 -/
theorem Old.delay_fraction_truncated :
    Old.applyDelay ⟨1000, 100000, 3, 2⟩ (.ns 1000) = 1000 ∧ Wm.Mw.applyDelay ⟨1000, 100000, 3, 2⟩ (.ns 1000) = 1500 := by decide +kernel

/-! ## Composition: the effect ends with the call -/

theorem apply_ctxNeutral (m : Mw) (h : Handler) (hn : CtxNeutral h) : CtxNeutral (apply m h) := by
  intro st
  cases m with
  | timeout e => rfl
  | correlation => exact (correlation_transparent h st).1 ▸ hn st
  | recoverer => exact (recoverer_transparent h st).1 ▸ hn st
  | ignoreErrors l => exact (ignore_errors_only_listed l h st).1 ▸ hn st
  | instantAck => exact (hn _).trans (ackMsg_ctx st)
  | throttle => exact hn { st with ticks := st.ticks + 1 }
  | breaker => exact hn st
  | delayOnError c =>
    have := hn st
    simp only [applyC, delayOnError]
    generalize h st = x at this
    rcases x with ⟨⟨outs, _ | e⟩ | v, st'⟩ <;> exact this
  | retry n => exact retry_ctxNeutral true n h hn st

/-- every stack (any length, any order, Retry included) leaves the message context as it found it, provided the
    handler does – in particular the context is not left cancelled -/
theorem stack_context_restored (ms : List Mw) (h : Handler) (hn : CtxNeutral h) (st : St) :
    (run ms h st).2.ctx = st.ctx := by
  induction ms generalizing st with
  | nil => exact hn st
  | cons m rest ih => exact apply_ctxNeutral m _ ih st

/-- **no middleware invents a panic**: around a handler that never panics no chain of the simple middlewares panics –
    whatever the error values are (comparable or not, wrapped or not) and whatever state the message is in -/
theorem simple_never_introduces_panic (m : Mw) (hm : m.isRetry = false) (h : Handler)
    (hh : ∀ st v, (h st).1 ≠ .panic v) (st : St) (v : PVal) : (apply m h st).1 ≠ .panic v := by
  cases m with
  | retry n => cases hm
  | timeout e => exact (timeout_transparent e h st).1 ▸ hh _ v
  | instantAck | throttle | breaker => exact hh _ v
  | recoverer => exact (recoverer_never_escapes h st).1 v
  | delayOnError c => exact (delay_transparent c h st).1 ▸ hh st v
  | correlation =>
    rcases hr : (h st).1 with ⟨outs, err⟩ | w
    · rw [(correlation_transparent h st).2.2 outs err hr]; exact Res.noConfusion
    · exact absurd hr (hh st w)
  | ignoreErrors l =>
    obtain ⟨-, h1, h2, h3, -⟩ := ignore_errors_only_listed l h st
    rcases hr : (h st).1 with ⟨outs, _ | e⟩ | w
    · rw [h3 outs hr]; exact Res.noConfusion
    · by_cases hl : listed l e
      · rw [h1 outs e hr hl]; exact Res.noConfusion
      · rw [h2 outs e hr hl]; exact Res.noConfusion
    · exact absurd hr (hh st w)

/-- every middleware except Retry calls what it wraps exactly once: `apply m h st = post (h (pre st))` for
    functions `pre`, `post` that do not depend on `h` -/
theorem simple_calls_inner_once (m : Mw) (hm : m.isRetry = false) :
    ∃ (pre : St → St) (post : St → Res × St → Res × St), ∀ h st, apply m h st = post st (h (pre st)) :=
  ⟨pre m, fun st x => apply m (fun _ => x) st, applyC_simple true m hm⟩

/-- **composition with Retry does not change its attempt count**: in every stack (any length – in particular
    every stack of ≤ 3 of these middlewares around and inside Retry, in any order) run on a message whose
    context is not done, Retry's look at the message context never decides anything: the whole run – result,
    message, and the handler's call log, hence the number of attempts – equals the run in which Retry follows
    only its own rule (retry until success, at most max(MaxRetries,1) times).  The one excluded arrangement
    is a Retry *inside* a Timeout that is already expired when it starts, where stopping is Retry's
    documented reaction to a cancelled context. -/
theorem compose_with_retry (ms : List Mw) (hok : retryOutsideExpired ms = true) (h : Handler) (hn : CtxNeutral h)
    (st : St) (hd : st.ctx.done = false) :
    run ms h st = runC false ms h st := by
  induction ms generalizing st with
  | nil => rfl
  | cons m rest ih =>
    by_cases hm : m = .timeout true
    · -- inside an expired Timeout the context is done, but there is no Retry there to look at it
      subst hm
      simp only [runC, runC_noRetry true rest hok h]
      rfl
    · rw [retryOutsideExpired_cons m hm] at hok
      exact applyC_agree m hm _ _ (stack_context_restored rest h hn) (ih hok) st hd

/-- the attempt count, read off the scripted handler's log -/
theorem compose_with_retry_attempts (ms : List Mw) (hok : retryOutsideExpired ms = true) (st : St)
    (hd : st.ctx.done = false) :
    (run ms scripted st).2.log.length = (runC false ms scripted st).2.log.length := by
  rw [compose_with_retry ms hok scripted scripted_ctxNeutral st hd]

/-- **Retry's own rule, explicitly**: around the scripted handler the reference Retry makes exactly
    `ownAttempts MaxRetries script` calls – one, then after a failure one more until a call does not fail, at most
    max(MaxRetries, 1) retries -/
theorem retry_own_attempts (m : Nat) (st : St) :
    (runC false [.retry m] scripted st).2.log.length = st.log.length + ownAttempts m st.script := by
  rcases hx : scripted st with ⟨r, st'⟩
  obtain ⟨h1, h2, h3⟩ := scripted_call hx
  rcases r with ⟨o, _ | e⟩ | v <;> simp only [runC, applyC, retry, hx, ownAttempts, h1]
  · exact h3
  · rw [Bool.false_and, retryLoop_scripted_attempts, h2, h3, Nat.add_assoc]
    rfl
  · exact h3

/-- Retry's own rule on a handler that always fails: 1 + max(MaxRetries, 1) attempts -/
theorem retry_own_attempts_all_fail (m : Nat) (o : List Out) (e : Err) (st : St) (hs : st.script = [.ret o (some e)]) :
    (runC false [.retry m] scripted st).2.log.length = st.log.length + 1 + max m 1 := by
  -- `ownAttempts m` of the constant script is `1 + ownLoop (m - 1)` of it by computation
  rw [retry_own_attempts, hs, Nat.add_assoc, ← Nat.sub_add_eq_max, ← ownLoop_all_fail o e]
  rfl

/-- the case of the statement: one Retry with any number (in particular up to two) of the simple middlewares around it
    and/or inside it, in any order, none of them an already expired Timeout outside the Retry – the attempt count is Retry's own; when only
    middlewares that do not change the error (Timeout, CorrelationID, InstantAck, Throttle, CircuitBreaker,
    DelayOnError) are involved it is `ownAttempts` of the handler's own results -/
theorem compose_with_retry_around_and_inside (outer inner : List Mw) (m : Nat)
    (ho : ∀ x ∈ outer, x.isRetry = false ∧ x ≠ .timeout true) (hi : ∀ x ∈ inner, x.isRetry = false)
    (st : St) (hd : st.ctx.done = false) :
    run (outer ++ .retry m :: inner) scripted st = runC false (outer ++ .retry m :: inner) scripted st := by
  apply compose_with_retry _ _ scripted scripted_ctxNeutral st hd
  induction outer with
  | nil =>
    -- Retry outermost: whatever is inside (an expired Timeout included) is fine
    exact retryOutsideExpired_of_noRetry inner ((noRetry_iff _).mpr hi)
  | cons x rest ih =>
    rw [List.cons_append, retryOutsideExpired_cons x (ho x (List.mem_cons_self ..)).2]
    exact ih fun y hy => ho y (List.mem_cons_of_mem _ hy)

example : ownAttempts 3 [.ret [] (some (.base "x"))] = 4 ∧ ownAttempts 0 [.ret [] (some (.base "x"))] = 2 ∧
    ownAttempts 3 [.ret [] (some (.base "x")), .ret [] none] = 2 ∧
    ownAttempts 3 [.ret [] (some (.base "x")), .panic .nil] = 2 ∧ ownAttempts 3 [.ret [] none] = 1 := by decide +kernel

/-- the error *value* does not matter to Retry: a handler that reports its per-attempt context's error – plain or wrapped –
    under `Retry(Timeout(h))` gets Retry's own 1+MaxRetries attempts (the message context is live again after every attempt) -/
example : (run [.retry 3, .timeout false] scripted (exSt [.ret [] (some (.ctxErr true))])).2.log.length = 4 ∧
    (run [.retry 2, .timeout true] scripted (exSt [.ret [] (some (.pkgWrap "ctx" (.ctxErr true))), .ret [] (some (.fmtWrap "ctx" (.ctxErr false))), .ret [] none])).2.log.length = 3 ∧
    ownAttempts 3 [.ret [] (some (.ctxErr true))] = 4 := by decide +kernel

/-- non-vacuity: Retry(Timeout(h)), Timeout(Retry(h)), Retry(Recoverer(Timeout0(h))) with a failing handler make
    1+MaxRetries attempts; Timeout0(Retry(h)) – the excluded arrangement – makes one -/
example : (run [.retry 3, .timeout false] scripted (exSt [.ret [] (some (.base "x"))])).2.log.length = 4 := by decide +kernel
example : (run [.timeout false, .retry 3] scripted (exSt [.ret [] (some (.base "x"))])).2.log.length = 4 := by decide +kernel
example : (run [.retry 2, .recoverer, .timeout true] scripted (exSt [.panic .nil])).2.log.length = 3 := by decide +kernel
example : (run [.timeout true, .retry 3] scripted (exSt [.ret [] (some (.base "x"))])).2.log.length = 1 := by decide +kernel
example : retryOutsideExpired [.retry 2, .recoverer, .timeout true] = true ∧ retryOutsideExpired [.timeout true, .retry 2] = false := by decide +kernel

end Wm.Mw
