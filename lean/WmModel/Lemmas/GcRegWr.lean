import WmModel.Lemmas.GcRegInv
namespace Wm.GcReg

variable {s s' : St} {a : Action} {i : Nat} {old new : Th} {l : List Th} {rd rd' : List Nat} {held : Bool} {ann : Option Nat}

/-- the thread holds the write lock of the subscribers RWMutex -/
def hasW : Th → Bool
  | .sub _ _ .tlock | .sub _ _ .register | .td _ _ .tlock | .td _ _ .remove => true
  | _ => false

theorem holdsW_of_hasW (th : Th) (h : hasW th = true) : holdsW th = true := by
  cases th with
  | pub t r pc ao => simp [hasW] at h
  | closer pc => simp [hasW] at h
  | sub t sid pc => cases pc <;> simp_all [hasW, holdsW]
  | td t sid pc => cases pc <;> simp_all [hasW, holdsW]

def WrOn (l : List Th) (readers : List Nat) (annHeld : Bool) (ann : Option Nat) : Prop :=
  (annHeld = true → readers = []) ∧
  (∀ (i : Nat) (th : Th), l[i]? = some th → hasW th = true → annHeld = true) ∧
  (annHeld = true → ann.isSome = true)

/-- write-lock bookkeeping: while the write lock is held there are no readers; the holder is the announced writer -/
def WrOk (s : St) : Prop := WrOn s.ths s.readers s.annHeld s.ann

theorem wr_init (cfg : Cfg) : WrOk (init cfg) := by simp [WrOk, WrOn, init]

theorem wr_set_keep (h : WrOn l rd held ann) (hold : l[i]? = some old)
    (hw : hasW old = true ∨ hasW new = false) (hrd : held = true → rd = [] → rd' = []) : WrOn (l.set i new) rd' held ann :=
  ⟨fun hh => hrd hh (h.1 hh),
    forall_set h.2.1 _ _ (fun hwj => h.2.1 i old hold (hw.resolve_right (by rw [hwj]; exact Bool.noConfusion))), h.2.2⟩

theorem wr_append (h : WrOn l rd held ann) (hn : hasW new = false) : WrOn (l ++ [new]) rd held ann :=
  ⟨h.1, forall_append h.2.1 _ (fun hwj => by rw [hn] at hwj; cases hwj), h.2.2⟩

theorem wr_set_take (hrd : rd = []) (hann : ann = some i) : WrOn l rd true ann :=
  ⟨fun _ => hrd, fun _ _ _ _ => rfl, fun _ => by rw [hann]; rfl⟩

theorem wr_free (h : WrOn l rd held ann) (hann : ann = none) : held = false := by
  cases hx : held with
  | false => rfl
  | true => have := h.2.2 hx; rw [hann] at this; cases this

theorem wr_set_free (hno : ∀ j th, j ≠ i → l[j]? = some th → hasW th = false) (hn : hasW new = false) :
    WrOn (l.set i new) rd false ann := by
  refine ⟨nofun, fun j th hj hwj => ?_, nofun⟩
  rcases get_set_cases _ _ _ _ _ hj with ⟨_, hth⟩ | ⟨hji, hj'⟩
  · subst hth; rw [hn] at hwj; cases hwj
  · rw [hno j th hji hj'] at hwj; cases hwj

theorem wr_step (hw1 : W1 s) (h : WrOk s) (hs : Step s a s') : WrOk s' := by
  cases hs with
  | newPub | newPubNested | newSub | newClose => exact wr_append h rfl
  | cancel | senderDone | panic => exact h
  | subTlock i t hth => exact wr_append (wr_set_keep h hth (.inl rfl) (fun _ hx => hx)) rfl
  | thread hth hm =>
    cases hm with
    | pubRlock hann => exact wr_set_keep h hth (.inr rfl) (fun hx _ => by rw [wr_free h hann] at hx; cases hx)
    | subAnnounce hann | tdAnnounce hann =>
      -- the announcement was free, so nobody holds the write lock
      have hfree := wr_free h hann
      refine hfree ▸ wr_set_free (fun j th _ hj => ?_) rfl
      cases hw : hasW th with
      | false => rfl
      | true => exact absurd ((h.2.1 j th hj hw).symm.trans hfree) nofun
    | subDrain hrd hann | tdDrain hrd hann => exact wr_set_take hrd hann
    | subRegister | tdRemove =>
      -- the writer releases the lock: by `W1` it was the only thread holding it
      refine wr_set_free (fun j th hji hj => ?_) rfl
      cases hw : hasW th with
      | false => rfl
      | true => exact absurd (w1_unique hw1 hj (holdsW_of_hasW th hw) hth rfl) hji
    | tdTlock => exact wr_set_keep h hth (.inl rfl) (fun _ hx => hx)
    | pubPersistErr | pubUnlock => exact wr_set_keep h hth (.inr rfl) (fun _ hx => by rw [hx]; rfl)
    | _ => exact wr_set_keep h hth (.inr rfl) (fun _ hx => hx)

end Wm.GcReg
