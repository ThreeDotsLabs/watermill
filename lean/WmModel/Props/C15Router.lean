/-
  C15 – `Wm.Cqrs.settleOf` ("`handler.handleMessage` for a NoPublisherHandler: nil ⇒ Ack, error ⇒ Nack, recovered panic ⇒
  Nack"), the rule the ack tables of the CQRS processors are built on, is *derived* from the model of
  `handler.handleMessage` (WmModel/Handle.lean, tied to the Go source by `Props/C02Tie.lean`) and the settlement model of
  C03 – for every handler configuration (the processors register with `AddNoPublisherHandler`, the theorem does not even
  need that), every publisher behaviour and every kind of message.
-/
import WmModel.Cqrs
import WmModel.Props.C02
namespace Wm.Cqrs
open Wm.Handle (Cfg PubOutcome handle sentAfter)

/-- the router handler closure of a processor returns no messages: `return nil` / `return err` / a panic travels through -/
def HRes.toResult : HRes → Handle.Result Unit
  | .retNil => .returns [] false
  | .retErr => .returns [] true
  | .panic  => .panics .value

def Settle.toSent : Settle → Ack.Sent
  | .ack => .ack
  | .nack => .nack

/-- **the settle rule of the ack tables is the one of `handleMessage`** -/
theorem settleOf_eq_handle (k : Ack.Kind) (c : Cfg) (p : PubOutcome) (r : HRes) :
    sentAfter k (handle c ⟨none, r.toResult⟩ p) = (settleOf r).toSent := by
  rw [Handle.sentAfter_handle]
  cases r <;> rfl

/-- and `handleMessage` never calls a publisher for a processor's handler (it returns no messages) -/
theorem processor_handler_never_publishes (c : Cfg) (p : PubOutcome) (r : HRes) :
    (handle c ⟨none, r.toResult⟩ p).any Handle.Effect.isPublishCall = false := by
  rw [Handle.any_publishCall_handle]
  cases r <;> rfl

example : sentAfter .new (handle ⟨.disabled, ""⟩ ⟨none, HRes.retErr.toResult⟩ .accept) = .nack := by decide
example : sentAfter .zero (handle ⟨.disabled, ""⟩ ⟨none, HRes.retNil.toResult⟩ .panic) = .ack := by decide

end Wm.Cqrs
