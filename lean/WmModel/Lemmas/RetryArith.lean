/-
  Arithmetic of the back-off library for C12: the jitter interval of `randomized`, and the interval sequence `curAt`
  bounded step by step through the library's update rule `nextCur`.
-/
import WmModel.Retry
namespace Wm.Retry

theorem drawDen_pos : 0 < drawDen := Nat.two_pow_pos 53

theorem lowEnd_le_randomized (cfg : Cfg) (cur draw : Nat) : lowEnd cfg cur ≤ randomized cfg cur draw := by
  unfold lowEnd randomized
  rw [← Nat.mul_div_mul_right (cur * (cfg.rfD - cfg.rfN)) cfg.rfD drawDen_pos]
  exact Nat.div_le_div_right (Nat.le_add_right _ _)

theorem randomized_zero (cfg : Cfg) (cur : Nat) : randomized cfg cur 0 = lowEnd cfg cur := by
  unfold lowEnd randomized
  simp [Nat.mul_div_mul_right _ _ drawDen_pos]

/-- a wait of `g` ns is at least the lower end only if `g + 1 > cur·(1−rf)`; the `+ 1` is the truncation to ns -/
theorem lt_of_lowEnd_le (cfg : Cfg) (cur g : Nat) (hb : 0 < cfg.rfD) (h : lowEnd cfg cur ≤ g) :
    cur * (cfg.rfD - cfg.rfN) < (g + 1) * cfg.rfD :=
  Nat.lt_of_lt_of_le (by rw [Nat.succ_mul]; exact Nat.lt_div_mul_add hb) (Nat.mul_le_mul_right _ (Nat.succ_le_succ h))

theorem randomized_le_highEnd (cfg : Cfg) (cur draw : Nat) (hb : 0 < cfg.rfD) (hab : cfg.rfN ≤ cfg.rfD)
    (hd : draw < drawDen) : randomized cfg cur draw ≤ highEnd cfg cur := by
  have e : cfg.rfD - cfg.rfN + 2 * cfg.rfN = cfg.rfD + cfg.rfN := by omega
  calc randomized cfg cur draw
      ≤ (cur * (cfg.rfD - cfg.rfN) * drawDen + drawDen * (2 * cur * cfg.rfN + cfg.rfD)) / (cfg.rfD * drawDen) :=
        Nat.div_le_div_right (Nat.add_le_add_left (Nat.mul_le_mul_right _ (Nat.le_of_lt hd)) _)
    _ = (cur * (cfg.rfD + cfg.rfN) + cfg.rfD) * drawDen / (cfg.rfD * drawDen) := by
        rw [Nat.mul_comm drawDen, ← Nat.add_mul, ← Nat.add_assoc, Nat.mul_comm 2, Nat.mul_assoc, ← Nat.mul_add, e]
    _ = cur * (cfg.rfD + cfg.rfN) / cfg.rfD + 1 := by
        rw [Nat.mul_div_mul_right _ _ drawDen_pos, Nat.add_div_right _ hb]

theorem randomized_rf_zero (cfg : Cfg) (cur draw : Nat) (hb : 0 < cfg.rfD) (h0 : cfg.rfN = 0) (hd : draw < drawDen) :
    randomized cfg cur draw = cur := by
  unfold randomized
  rw [h0, Nat.sub_zero, Nat.mul_zero, Nat.zero_add]
  -- the numerator is draw·rfD + (rfD·drawDen)·cur, and draw·rfD < rfD·drawDen
  rw [Nat.mul_assoc, Nat.mul_comm cur, Nat.add_comm, Nat.add_mul_div_left _ _ (Nat.mul_pos hb drawDen_pos),
    Nat.div_eq_of_lt (by rw [Nat.mul_comm]; exact Nat.mul_lt_mul_of_pos_left hd hb), Nat.zero_add]

/-! ### one step of the update rule, then the sequence -/

theorem nextCur_le_maxInt (cfg : Cfg) (c : Nat) : nextCur cfg c ≤ cfg.maxInt := by
  unfold nextCur
  split
  · exact Nat.le_refl _
  · exact Nat.le_of_lt (Nat.div_lt_of_lt_mul (by rw [Nat.mul_comm cfg.mulD]; omega))

theorem nextCur_mul_le (cfg : Cfg) (c : Nat) : nextCur cfg c * cfg.mulD ≤ c * cfg.mulN := by
  unfold nextCur
  split
  · assumption
  · exact Nat.div_mul_le_self _ _

/-- the interval is capped, or the division lost less than one unit -/
theorem nextCur_cases (cfg : Cfg) (hq : 1 ≤ cfg.mulD) (c : Nat) :
    nextCur cfg c = cfg.maxInt ∨ c * cfg.mulN < nextCur cfg c * cfg.mulD + cfg.mulD := by
  unfold nextCur
  split
  · exact .inl rfl
  · exact .inr (Nat.lt_div_mul_add hq)

/-- integer multiplier: no truncation -/
theorem nextCur_min (cfg : Cfg) (hq : cfg.mulD = 1) (hp : 1 ≤ cfg.mulN) (x : Nat) :
    nextCur cfg (min x cfg.maxInt) = min (x * cfg.mulN) cfg.maxInt := by
  have h1 : x ≤ x * cfg.mulN := Nat.le_mul_of_pos_right _ hp
  have h2 : cfg.maxInt ≤ cfg.maxInt * cfg.mulN := Nat.le_mul_of_pos_right _ hp
  simp only [nextCur, hq, Nat.mul_one, Nat.div_one]
  by_cases h : x ≤ cfg.maxInt
  · rw [Nat.min_eq_left h]; split <;> omega
  · rw [Nat.min_eq_right (by omega), if_pos h2]; omega

theorem curAt_le_maxInt (cfg : Cfg) (hi : cfg.init ≤ cfg.maxInt) : ∀ i, curAt cfg i ≤ cfg.maxInt
  | 0 => hi
  | i + 1 => nextCur_le_maxInt cfg (curAt cfg i)

/-- any multiplier: scaled by `mulD^i`, the sequence never exceeds `init·mult^i` … -/
theorem curAt_mul_le (cfg : Cfg) : ∀ i, curAt cfg i * cfg.mulD ^ i ≤ cfg.init * cfg.mulN ^ i
  | 0 => by simp [curAt]
  | i + 1 =>
    calc nextCur cfg (curAt cfg i) * cfg.mulD ^ (i + 1)
        = nextCur cfg (curAt cfg i) * cfg.mulD * cfg.mulD ^ i := by rw [Nat.pow_succ, Nat.mul_right_comm, Nat.mul_assoc]
      _ ≤ curAt cfg i * cfg.mulN * cfg.mulD ^ i := Nat.mul_le_mul_right _ (nextCur_mul_le cfg _)
      _ = curAt cfg i * cfg.mulD ^ i * cfg.mulN := Nat.mul_right_comm _ _ _
      _ ≤ cfg.init * cfg.mulN ^ i * cfg.mulN := Nat.mul_le_mul_right _ (curAt_mul_le cfg i)
      _ = cfg.init * cfg.mulN ^ (i + 1) := by rw [Nat.pow_succ, Nat.mul_assoc]

/-- truncation allowance after i multiplications, scaled by `mulD^i` -/
def truncSlack (cfg : Cfg) : Nat → Nat
  | 0 => 0
  | i + 1 => truncSlack cfg i * cfg.mulN + cfg.mulD ^ (i + 1)

/-- … and, for a multiplier ≥ 1, stays within the accumulated integer truncation below `min(init·mult^i, max)` -/
theorem curAt_lower (cfg : Cfg) (hq : 1 ≤ cfg.mulD) (hpq : cfg.mulD ≤ cfg.mulN) :
    ∀ i, min (cfg.init * cfg.mulN ^ i) (cfg.maxInt * cfg.mulD ^ i) ≤ curAt cfg i * cfg.mulD ^ i + truncSlack cfg i
  | 0 => Nat.min_le_left _ _
  | i + 1 => by
    rcases nextCur_cases cfg hq (curAt cfg i) with h | h
    · rw [curAt, h]
      exact Nat.le_trans (Nat.min_le_right _ _) (Nat.le_add_right _ _)
    · calc min (cfg.init * cfg.mulN ^ (i + 1)) (cfg.maxInt * cfg.mulD ^ (i + 1))
          = min (cfg.init * cfg.mulN ^ i * cfg.mulN) (cfg.maxInt * cfg.mulD ^ i * cfg.mulD) := by
            rw [Nat.pow_succ, Nat.pow_succ, Nat.mul_assoc, Nat.mul_assoc]
        _ ≤ min (cfg.init * cfg.mulN ^ i) (cfg.maxInt * cfg.mulD ^ i) * cfg.mulN := by
            rw [← Nat.mul_min_mul_right]
            exact Nat.le_min.mpr ⟨Nat.min_le_left _ _, Nat.le_trans (Nat.min_le_right _ _) (Nat.mul_le_mul_left _ hpq)⟩
        _ ≤ (curAt cfg i * cfg.mulD ^ i + truncSlack cfg i) * cfg.mulN := Nat.mul_le_mul_right _ (curAt_lower cfg hq hpq i)
        _ = curAt cfg i * cfg.mulN * cfg.mulD ^ i + truncSlack cfg i * cfg.mulN := by rw [Nat.add_mul, Nat.mul_right_comm]
        _ ≤ (curAt cfg (i + 1) * cfg.mulD + cfg.mulD) * cfg.mulD ^ i + truncSlack cfg i * cfg.mulN :=
            Nat.add_le_add_right (Nat.mul_le_mul_right _ (Nat.le_of_lt h)) _
        _ = curAt cfg (i + 1) * cfg.mulD ^ (i + 1) + truncSlack cfg (i + 1) := by
            rw [truncSlack, Nat.pow_succ, Nat.add_mul, Nat.mul_assoc, Nat.mul_comm cfg.mulD, Nat.add_assoc,
              Nat.add_comm (cfg.mulD ^ i * cfg.mulD)]

end Wm.Retry
