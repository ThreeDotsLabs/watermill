/-
  Helper lemmas about the executable model of strconv.Atoi / strconv.Itoa in WmModel/Relay.lean:
  `atoi (itoa i) = some i` on the range of a 64-bit int, and `atoi` never leaves that range.
-/
import WmModel.Relay
namespace Wm.Relay
open Wm.Poison (Str)

theorem digit_facts : ∀ d : Fin 10,
    isDigit (UInt8.ofNat (48 + d.val)) = true ∧ digitVal (UInt8.ofNat (48 + d.val)) = d.val := by decide

theorem digitChar_facts (n : Nat) : isDigit (digitChar n) = true ∧ digitVal (digitChar n) = n % 10 :=
  digit_facts ⟨n % 10, Nat.mod_lt _ (by decide)⟩

theorem digitsVal_append (xs : List UInt8) (b : UInt8) :
    digitsVal (xs ++ [b]) = digitsVal xs * 10 + digitVal b := by
  simp only [digitsVal, List.foldl_append, List.foldl_cons, List.foldl_nil]

/-- the fuel never runs out, and the digits denote the number -/
theorem natDigitsF_val : ∀ (f n : Nat), n < f →
    digitsVal (natDigitsF f n) = n ∧ (natDigitsF f n).all isDigit = true ∧ natDigitsF f n ≠ [] := by
  intro f
  induction f with
  | zero => exact fun n h => absurd h (Nat.not_lt_zero n)
  | succ f ih =>
    intro n hn
    obtain ⟨hd, hv⟩ := digitChar_facts n
    by_cases h10 : n < 10
    · rw [natDigitsF, if_pos h10]
      refine ⟨?_, by rw [List.all_cons, hd]; rfl, List.cons_ne_nil _ _⟩
      show 0 * 10 + digitVal (digitChar n) = n
      rw [hv, Nat.mod_eq_of_lt h10, Nat.zero_mul, Nat.zero_add]
    · have hlt : n / 10 < f :=
        Nat.lt_of_lt_of_le (Nat.div_lt_self (by omega) (by decide)) (Nat.le_of_lt_succ hn)
      obtain ⟨h1, h2, _⟩ := ih (n / 10) hlt
      rw [natDigitsF, if_neg h10]
      refine ⟨?_, by rw [List.all_append, h2, List.all_cons, hd]; rfl,
        List.append_ne_nil_of_right_ne_nil _ (List.cons_ne_nil _ _)⟩
      rw [digitsVal_append, h1, hv]; exact Nat.div_add_mod' n 10

theorem natDigits_val (n : Nat) :
    digitsVal (natDigits n) = n ∧ (natDigits n).all isDigit = true ∧ natDigits n ≠ [] :=
  natDigitsF_val (n + 1) n (Nat.lt_succ_self n)

/-- a digit is not a sign, so `atoi` takes a string that starts with a digit as it is -/
theorem stripSign_digit (c : UInt8) (rest : List UInt8) (h : isDigit c = true) :
    stripSign (c :: rest) = c :: rest ∧ isNeg (c :: rest) = false := by
  have h1 : c ≠ 43 := by rintro rfl; exact absurd h (by decide)
  have h2 : c ≠ 45 := by rintro rfl; exact absurd h (by decide)
  constructor
  · unfold stripSign
    split
    · rename_i heq; injection heq with ha _; exact absurd ha h1
    · rename_i heq; injection heq with ha _; exact absurd ha h2
    · rfl
  · unfold isNeg
    split
    · rename_i heq; injection heq with ha _; exact absurd ha h2
    · rfl

/-- `atoi` on an unsigned digit string -/
theorem atoi_natDigits (n : Nat) (h : n ≤ 9223372036854775807) : atoi (natDigits n) = some (n : Int) := by
  obtain ⟨h1, h2, h3⟩ := natDigits_val n
  cases hq : natDigits n with
  | nil => exact absurd hq h3
  | cons c rest =>
    rw [hq] at h1 h2
    obtain ⟨hs, hn⟩ := stripSign_digit c rest (Bool.and_eq_true_iff.mp h2).1
    simp only [atoi, hs, hn, h2, h1]
    simp [h]

theorem atoi_neg_natDigits (n : Nat) (h : n ≤ 9223372036854775808) :
    atoi (45 :: natDigits n) = some (-(n : Int)) := by
  obtain ⟨h1, h2, h3⟩ := natDigits_val n
  have hne : (natDigits n).isEmpty = false := by
    cases hq : natDigits n with
    | nil => exact absurd hq h3
    | cons _ _ => rfl
  have hs : stripSign (45 :: natDigits n) = natDigits n := rfl
  have hn : isNeg (45 :: natDigits n) = true := rfl
  simp only [atoi, hs, hn, h2, h1, hne]
  simp [h]

/-- **Itoa then Atoi is the identity on the range of `int`** (so the counter the requeuer writes is the counter it
    reads the next time) -/
theorem atoi_itoa (i : Int) (hlo : minInt ≤ i) (hhi : i ≤ maxInt) : atoi (itoa i) = some i := by
  unfold minInt at hlo
  unfold maxInt at hhi
  cases i with
  | ofNat n =>
    have hneg : ¬ Int.ofNat n < 0 := Int.not_lt.mpr (Int.natCast_nonneg n)
    rw [itoa, if_neg hneg]
    exact atoi_natDigits n (Int.ofNat_le.mp hhi)
  | negSucc n =>
    rw [itoa, if_pos (Int.negSucc_lt_zero n)]
    exact atoi_neg_natDigits (n + 1) (by omega)

/-- `atoi` only yields values of a 64-bit `int` -/
theorem atoi_range (s : Str) (i : Int) (h : atoi s = some i) : minInt ≤ i ∧ i ≤ maxInt := by
  unfold minInt maxInt
  simp only [atoi] at h
  by_cases hbad : ((stripSign s).isEmpty || !(stripSign s).all isDigit) = true
  · simp [hbad] at h
  · simp only [hbad] at h
    by_cases hn : isNeg s = true
    · simp only [hn, if_true] at h
      by_cases hr : digitsVal (stripSign s) ≤ 9223372036854775808
      · simp [hr] at h; omega
      · simp [hr] at h
    · simp only [hn] at h
      by_cases hr : digitsVal (stripSign s) ≤ 9223372036854775807
      · simp [hr] at h; omega
      · simp [hr] at h

/-- within the range of `int` Go's addition does not wrap -/
theorem wrap64_of_range (i : Int) (hlo : minInt ≤ i) (hhi : i ≤ maxInt) : wrap64 i = i := by
  unfold minInt at hlo
  unfold maxInt at hhi
  unfold wrap64
  omega

end Wm.Relay
