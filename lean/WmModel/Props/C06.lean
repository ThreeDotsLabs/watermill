/-
  C06 – Router.Close is graceful.  Theorems over every reachable state of RouterLife (WmModel/RouterLife.lean) with all
  four repairs on: any number of handlers, messages and Close callers, every interleaving, Close arriving at every
  point of a message's path, subscribers that emit while they are being closed, any handler outcome and duration.
  Helper lemmas: WmModel/Lemmas/RouterLife*.lean.  `Old` witnesses (one repair switched off): Props/C06Old.lean.
-/
import WmModel.Lemmas.RouterLifeCore
import WmModel.Lemmas.RouterLifePath
namespace Wm.RouterLife
open Wm.Lts

/-- of the four repairs only D5 (the two waits of waitForHandlers in sequence) is needed for "nil means quiet" -/
theorem quiet_of_close_nil (fx : Fix) (hfx : fx.d5 = true) (s : St) (h : Reach (sys fx) s) (hn : s.closeNil = true) :
    (∀ m ∈ s.msgs, m.stage.inFlight = false) ∧ (∀ hd ∈ s.hs, hd.loop.ended = true) :=
  have hc := reach_core fx hfx s h
  ⟨hc.c (hc.d hn).2, hc.a2 (hc.d hn).1⟩

/-- whatever the repairs: once no invocation is in flight and every loop has ended, each message is handled and settled,
    or was dropped unhandled and unsettled -/
theorem fate_of_quiet (fx : Fix) (s : St) (h : Reach (sys fx) s) (hq : ∀ m ∈ s.msgs, m.stage.inFlight = false)
    (hl : ∀ hd ∈ s.hs, hd.loop.ended = true) :
    ∀ x ∈ s.msgs, (x.stage = .done ∧ x.settle ≠ .none) ∨ (x.stage = .dropped ∧ x.settle = .none) := by
  have hp := reach_path fx s h
  intro x hx
  obtain ⟨m, hm⟩ := List.mem_iff_getElem?.mp hx
  have hset := hp.settled x hx
  have hfl := hq x hx
  cases hs : x.stage with
  | pump =>
    -- its handler's loop has ended, so the pump is done and holds nothing
    obtain ⟨y, hy, hpy⟩ := hp.pump.holder m x hm hs
    have hym := List.mem_of_getElem? hy
    have := ((reach_life fx s h).all y hym).l7 (.inr (.inr (Loop.ended_iff.mp (hl y hym))))
    rw [show y.pump.held = none by rw [this]; rfl] at hpy; cases hpy
  | recv =>
    obtain ⟨y, hy, hpy⟩ := hp.loop.holder m x hm hs
    rcases Loop.ended_iff.mp (hl y (List.mem_of_getElem? hy)) with he | he <;>
      rw [show y.loop.held = none by rw [he]; rfl] at hpy <;> cases hpy
  | dropped => exact Or.inr ⟨rfl, hset.mpr (by rw [hs]; nofun)⟩
  | done => exact Or.inl ⟨rfl, fun hc => hset.mp hc hs⟩
  | disp | inH | pub | preSettle => rw [hs] at hfl; cases hfl

/-- **Close returns nil only when no handler runs**: in every reachable state in which the Close call that performed
    the close has returned nil – and from then on for ever – no invocation is in progress (dispatched, started,
    publishing or before settlement) and every handler's receive loop has ended (`handlersWg.Done()` executed) -/
theorem close_nil_means_quiet (s : St) (h : Reach (sys allFixed) s) (hn : s.closeNil = true) :
    (∀ m ∈ s.msgs, m.stage.inFlight = false) ∧ (∀ hd ∈ s.hs, hd.loop.ended = true) :=
  quiet_of_close_nil allFixed rfl s h hn

/-- needs D5 only: with the two waits concurrent, `Old.close_race_witness` ends in a state with `hStart` enabled -/
theorem no_start_after_close_nil_of_d5 (fx : Fix) (hfx : fx.d5 = true) (s : St) (h : Reach (sys fx) s)
    (hn : s.closeNil = true) : (∀ m, act fx s (.hStart m) = none) ∧ (∀ i, act fx s (.dispatch i) = none) := by
  obtain ⟨hq, hl⟩ := quiet_of_close_nil fx hfx s h hn
  constructor
  · intro m
    refine act_none_of fun s' hs => ?_
    cases hs with
    | hStart hx hst => have := hq _ (List.mem_of_getElem? hx); rw [hst] at this; cases this
  · intro i
    refine act_none_of fun s' hs => ?_
    cases hs with
    | dispatch hx hlp => have := hl _ (List.mem_of_getElem? hx); rw [hlp] at this; cases this

/-- **… and none can start afterwards**: after the nil return neither the step that starts a handler invocation nor the
    step that dispatches a received message is enabled, for any message / handler, in any later state -/
theorem no_start_after_close_nil (s : St) (h : Reach (sys allFixed) s) (hn : s.closeNil = true) :
    (∀ m, act allFixed s (.hStart m) = none) ∧ (∀ i, act allFixed s (.dispatch i) = none) :=
  no_start_after_close_nil_of_d5 allFixed rfl s h hn

/-- **messages already on their way**: when the performing Close has returned nil, every message any subscriber ever
    emitted (before its Close returned – the model allows no later emission) is either handled to completion and
    settled, or was dropped by the closing decorator: never handled and never settled.  Nothing sits in a pump or in a
    loop's hand any more. -/
theorem message_fate (s : St) (h : Reach (sys allFixed) s) (hn : s.closeNil = true) :
    ∀ x ∈ s.msgs, (x.stage = .done ∧ x.settle ≠ .none) ∨ (x.stage = .dropped ∧ x.settle = .none) :=
  let ⟨hq, hl⟩ := close_nil_means_quiet s h hn
  fate_of_quiet allFixed s h hq hl

/-- needs D5 only, for "nil means every loop has ended": the loop closes the publisher before it counts as ended -/
theorem publisher_closed_before_close_returns_of_d5 (fx : Fix) (hfx : fx.d5 = true) (s : St) (h : Reach (sys fx) s)
    (hn : s.closeNil = true) : ∀ y ∈ s.hs, y.pubCloseCalls = 1 := by
  obtain ⟨_, hl⟩ := quiet_of_close_nil fx hfx s h hn
  intro y hy
  rw [((reach_life fx s h).all y hy).l6, if_pos (.inr (Loop.ended_iff.mp (hl y hy)))]

/-- **closes every handler's publisher**: when Close has returned nil every handler's publisher has seen exactly one
    Close call (made by the handler's loop before it counts as ended); in every reachable state at most one -/
theorem publisher_closed_before_close_returns (s : St) (h : Reach (sys allFixed) s) (hn : s.closeNil = true) :
    ∀ y ∈ s.hs, y.pubCloseCalls = 1 :=
  publisher_closed_before_close_returns_of_d5 allFixed rfl s h hn

theorem publisher_closed_at_most_once (fx : Fix) (s : St) (h : Reach (sys fx) s) :
    ∀ y ∈ s.hs, y.pubCloseCalls ≤ 1 := by
  intro y hy
  rw [((reach_life fx s h).all y hy).l6]; split <;> simp

/-- needs D6 only: without it the `ctx.Done` alternative goes straight on to `stopFn()`
    (`Old.close_skips_subscriber_witness`) -/
theorem subscriber_closed_by_handle_close_of_d6 (fx : Fix) (hfx : fx.d6 = true) (s : St) (h : Reach (sys fx) s)
    (i : Nat) (y : Handler) (hy : s.hs[i]? = some y) :
    y.subCloseCalls ≤ 1 ∧
    (s.closing = true → y.hc = .sel →
      (act fx s (.hcClose i)).isSome = true ∧
      ∀ a s', (a = .hcClose i ∨ a = .hcCtx i) → act fx s a = some s' →
        ∃ y', s'.hs[i]? = some y' ∧ y'.hc = .innerCall ∧ y'.subCloseCalls = 1) := by
  have hok := (reach_life fx s h).all y (List.mem_of_getElem? hy)
  refine ⟨hok.l9.2.2, fun hc hsel => ⟨(Step.hcClose hy hsel hc).enabled, fun a s' ha hact => ?_⟩⟩
  -- either alternative makes the one call: none was made before the select
  have called :
      ∃ y', (s.hs.modify i fun h => { h with hc := .innerCall, subCloseCalls := h.subCloseCalls + 1 })[i]? = some y' ∧
        y'.hc = .innerCall ∧ y'.subCloseCalls = 1 :=
    ⟨_, getElem?_modify_self _ _ _ _ hy, rfl, by rw [hok.l9.2.1 (.inr hsel)]⟩
  rcases ha with rfl | rfl
  · cases step_of_act hact with
    | hcClose => exact called
  · cases step_of_act hact with
    | hcCtxClose => exact called
    | hcCtxStop _ _ _ hn => exact absurd ⟨hfx, hc⟩ hn

/-- **closes every handler's subscriber**: at most one Close call per handler, ever; and a handleClose goroutine that
    is at its select while the router is closing can proceed, and whichever alternative it takes (`routersCloseCh` or
    `ctx.Done` – fix D6) it calls the subscriber's Close -/
theorem subscriber_closed_by_handle_close (s : St) (h : Reach (sys allFixed) s) (i : Nat) (y : Handler)
    (hy : s.hs[i]? = some y) :
    y.subCloseCalls ≤ 1 ∧
    (s.closing = true → y.hc = .sel →
      (act allFixed s (.hcClose i)).isSome = true ∧
      ∀ a s', (a = .hcClose i ∨ a = .hcCtx i) → act allFixed s a = some s' →
        ∃ y', s'.hs[i]? = some y' ∧ y'.hc = .innerCall ∧ y'.subCloseCalls = 1) :=
  subscriber_closed_by_handle_close_of_d6 allFixed rfl s h i y hy

/-- **… also when the subscriber's Close fails**: handleClose cancels the handler's context whatever `Close` answered. From
    the call, the error return (the subscription is NOT ended by it) leads straight to `stopFn()`; after that step the
    handler's context is done, so a subscription that honours its context can end – for handlers started by Run and for
    handlers started by a later RunHandlers alike (no use of Run's own cancel). -/
theorem handle_close_cancels_context_when_close_fails (fx : Fix) (s : St) (i : Nat) (y : Handler)
    (hy : s.hs[i]? = some y) (hc : y.hc = .innerCall) :
    ∃ s1 s2 y2, act fx s (.hcCloseFail i) = some s1 ∧ act fx s1 (.hcStop i) = some s2 ∧
      s2.hs[i]? = some y2 ∧ y2.ctxDone = true ∧ y2.hc = .done ∧ y2.innerClosed = y.innerClosed ∧ y2.subCloseCalls = y.subCloseCalls ∧
      (y2.pump ≠ .off → y2.innerClosed = false → (act fx s2 (.innerCtx i)).isSome = true) := by
  have hy1 : (updH s i fun h => { h with hc := .stop }).hs[i]? = some { y with hc := .stop } :=
    getElem?_modify_self _ _ _ _ hy
  have hy2 := getElem?_modify_self _ _ (fun h : Handler => { h with hc := .done, ctxDone := true }) _ hy1
  exact ⟨_, _, _, act_of_step (.hcCloseFail hy hc), act_of_step (.hcStop hy1 rfl), hy2, rfl, rfl, rfl, rfl,
    fun hp hic => (Step.innerCtx hy2 hp rfl hic).enabled⟩

/-- **If running handlers outlive CloseTimeout, Close returns an error instead of hanging**: while the performing Close
    waits, the timer can fire; once it has fired the call can return, and it returns the error, closing closedCh and
    releasing both locks – whatever the handlers do -/
theorem close_timeout_returns_error (fx : Fix) (s : St) (h : Reach (sys fx) s) (k : Nat)
    (hk : s.closers[k]? = some CPc.waiting) :
    (act fx s .timer).isSome = true ∧
    (s.timerFired = true → ∃ s', act fx s (.closeTimeout k) = some s' ∧ s'.closers[k]? = some (CPc.ret true) ∧
        s'.closedCh = true ∧ s'.cl = none ∧ s'.hl = .free) := by
  obtain ⟨hc, hcc, _, _⟩ := (reach_ctl fx s h).k1 k hk
  exact ⟨(Step.timer hc hcc).enabled, fun ht => ⟨_, act_of_step (.closeTimeout hk ht),
    List.getElem?_set_self (List.getElem?_eq_some_iff.mp hk).1, rfl, rfl, rfl⟩⟩

/-- the steps of the close protocol, of the timer and of a RunHandlers call that holds `handlersLock` -/
def closeStep : Action → Bool
  | .closeCL _ | .closeHL _ | .closeDone _ | .closeTimeout _ | .timer | .rhSub _ | .rhStep | .rhSpawn | .rhEnd => true
  | _ => false

/-- a RunHandlers call that holds `handlersLock` can always make a step of its own (it never waits for anybody) -/
theorem runhandlers_progress (fx : Fix) (s : St) (h : Reach (sys fx) s) (v : Bool) (c : Option (Nat × Nat))
    (hh : s.hl = .rh v c) : ∃ a, closeStep a = true ∧ a.isEnv = false ∧ (act fx s a).isSome = true := by
  match c with
  | some (i, st) =>
    obtain ⟨_, _, hc⟩ := (reach_life fx s h).cur i st (by rw [hh]; rfl)
    match st, hc.c0 with
    | 0, _ => exact ⟨.rhStep, rfl, rfl, (Step.rhStep0 hh).enabled⟩
    | 1, _ => exact ⟨.rhStep, rfl, rfl, (Step.rhStep1 hh).enabled⟩
    | 2, _ => exact ⟨.rhSpawn, rfl, rfl, (Step.rhSpawn hh).enabled⟩
  | none =>
    -- it ends, or subscribes a handler that is neither started nor removed
    by_cases hall : s.hs.all (fun h => h.started || h.removed) = true
    · exact ⟨.rhEnd, rfl, rfl, (Step.rhEnd hh hall).enabled⟩
    · obtain ⟨y, hy, hn⟩ : ∃ y ∈ s.hs, y.started = false ∧ y.removed = false := by simpa using hall
      obtain ⟨i, hi⟩ := List.mem_iff_getElem?.mp hy
      exact ⟨.rhSub i, rfl, rfl, (Step.rhSub hh hi hn.1 hn.2).enabled⟩

/-- **every Close call returns** (progress form, no fairness about handlers needed): as long as a Close call has not
    returned, a step of the close protocol, of the CloseTimeout timer or of the RunHandlers call holding `handlersLock` is
    enabled – never a step of a handler, a subscriber or another caller.  So no Close call is ever blocked for ever:
    concurrent callers queue on `closedLock`, the performing call leaves through `closeDone` or the timeout. -/
theorem every_close_call_can_proceed (fx : Fix) (s : St) (h : Reach (sys fx) s) (k : Nat) (pc : CPc)
    (hk : s.closers[k]? = some pc) (hnr : ∀ e, pc ≠ .ret e) :
    ∃ a, closeStep a = true ∧ (act fx s a).isSome = true := by
  have hctl := reach_ctl fx s h
  have waiting : ∀ j : Nat, s.closers[j]? = some CPc.waiting → ∃ a, closeStep a = true ∧ (act fx s a).isSome = true := by
    intro j hj
    obtain ⟨hc, hcc, _, _⟩ := hctl.k1 j hj
    exact ⟨.timer, rfl, (Step.timer hc hcc).enabled⟩
  have onHL : ∀ j : Nat, s.closers[j]? = some CPc.wantHL → ∃ a, closeStep a = true ∧ (act fx s a).isSome = true := by
    intro j hj
    cases hhl : s.hl with
    | free => exact ⟨.closeHL j, rfl, closeHL_enabled hj hhl⟩
    | closer j' => exact waiting j' (hctl.k4 j' hhl)
    | rh v c => let ⟨a, h1, _, h3⟩ := runhandlers_progress fx s h v c hhl; exact ⟨a, h1, h3⟩
  cases pc with
  | ret e => exact absurd rfl (hnr e)
  | waiting => exact waiting k hk
  | wantHL => exact onHL k hk
  | wantCL =>
    cases hcl : s.cl with
    | none => exact ⟨.closeCL k, rfl, (Step.closeCL hk hcl).enabled⟩
    | some j =>
      rcases hctl.k3 j hcl with hj | hj
      · exact onHL j hj
      · exact waiting j hj

/-- **Close may be called repeatedly**: a call that finds the router already closed returns nil at once -/
theorem close_again_returns_nil (fx : Fix) (s s' : St) (k : Nat) (hc : s.closed = true)
    (ha : act fx s (.closeHL k) = some s') : s'.closers[k]? = some (CPc.ret false) ∧ s'.hs = s.hs ∧ s'.msgs = s.msgs := by
  cases step_of_act ha with
  | closeHLAgain hk => exact ⟨List.getElem?_set_self (List.getElem?_eq_some_iff.mp hk).1, rfl, rfl⟩
  | closeHL _ _ hn => rw [hc] at hn; cases hn

/-- **Run returns only after the close has completed, never while Close is still waiting for handlers**: when Run has
    returned, closedCh is closed, the performing Close has returned (nil or the timeout error) and no Close call is waiting;
    and the step that lets Run return is not enabled before closedCh is closed -/
theorem run_returns_only_after_closed (fx : Fix) (s : St) (h : Reach (sys fx) s) :
    (s.run = .ret → s.closedCh = true ∧ (s.closeNil = true ∨ s.closeErr = true) ∧
        ∀ k : Nat, s.closers[k]? ≠ some CPc.waiting) ∧
    (s.closedCh = false → act fx s .runRet = none) := by
  have hctl := reach_ctl fx s h
  constructor
  · intro hr
    have hcc := hctl.k8.1 hr
    refine ⟨hcc, hctl.k5.2.mp hcc, ?_⟩
    intro k hk
    have := (hctl.k1 k hk).2.1
    rw [hcc] at this; cases this
  · intro hcc
    refine act_none_of fun s' hs => ?_
    cases hs with
    | runRet _ h1 => rw [hcc] at h1; cases h1

/-! non-vacuity: one handler, a message in the handler when Close arrives, a second message emitted by the subscriber
    *during* its Close (between call and return), dispatched while the waiter waits; Close returns nil only after both ended -/
def demoClose : List Action :=
  [.addHandler, .runCall, .runWatch, .runRh, .rhSub 0, .rhStep, .rhStep, .rhSpawn, .rhEnd, .runRunning,
   .emit 0, .pumpOut 0, .dispatch 0, .hStart 0,
   .closeCall, .closeCL 0, .closeHL 0, .hcClose 0, .emit 0, .hcInnerRet 0, .pumpOut 0, .dispatch 0,
   .pumpEnd 0, .loopEnd 0, .pubClose 0, .wgDone 0, .wLoops, .wLock,
   .hReturn 0 true, .hPublished 0 true, .hSettle 0, .hStart 1, .hReturn 1 false, .wRunning, .closeDone 0]

example : ∃ s, exec (sys allFixed) init demoClose = some s ∧ s.closeNil = true ∧
    s.msgs = [⟨0, .done, .ack⟩, ⟨0, .done, .nack⟩] ∧ s.closers = [.ret false] :=
  ⟨_, rfl, by decide, by decide, by decide⟩

end Wm.RouterLife
