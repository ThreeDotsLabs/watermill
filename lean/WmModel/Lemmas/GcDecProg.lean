import WmModel.Lemmas.GcDecLk
import WmModel.Lemmas.GcDecWg
import WmModel.Lemmas.GcDecCh
import WmModel.Lemmas.GcDecCl
namespace Wm.GcDec

def enabled (s : St) (j : Nat) : Prop := (act s (.step j)).isSome = true
def Progress (s : St) : Prop := ∃ j, enabled s j

/-- once the decorator is closing and the inner subscriber is closed, a pump can always move: it needs neither a
    consumer nor the inner subscriber -/
theorem pump_progress (s : St) (hc : s.closing = true) (hic : s.innerClosed = true) (hch : ChOk s) (hcl : ClOk s)
    (i k : Nat) (pc : PPc) (r f d : Nat) (hth : s.ths[i]? = some (Th.pump k pc r f d)) (hpc : pc ≠ PPc.done) :
    enabled s i := by
  rw [enabled, act_pump hth]
  cases pc with
  | done => exact absurd rfl hpc
  | recv =>
    -- the channel exists and is closed: the pump takes a waiting message or sees the end of the channel
    have hk : k < s.ins.length := hch.2.1 i _ hth k rfl
    have hclosed := hcl.2.2.2 hic s.ins[k] (List.getElem_mem hk)
    simp only [stepPump, List.getElem?_eq_getElem hk, hclosed]
    split <;> rfl
  | send => simp only [stepPump, hc]; rfl
  | closeOut => simp only [stepPump]; split <;> rfl
  | wgDone => simp only [stepPump]; split <;> rfl

theorem owes_progress (s : St) (hc : s.closing = true) (hic : s.innerClosed = true) (hch : ChOk s) (hcl : ClOk s)
    (i : Nat) (th : Th) (hth : s.ths[i]? = some th) (ho : owes th = true) : enabled s i := by
  cases th with
  | closer pc => cases ho
  | sub k pc =>
    rw [enabled, act_sub hth]
    cases pc with
    | unlock | spawn => rfl
    | _ => cases ho
  | pump k pc r f d => exact pump_progress s hc hic hch hcl i k pc r f d hth (fun hx => by subst hx; cases ho)

/-- a Close call inside `subscribeWg.Wait()` returns from it, or a thread it waits for can move -/
theorem wait_progress (s : St) (hch : ChOk s) (hcl : ClOk s) (hwg : WgOk s)
    (j : Nat) (hj : s.ths[j]? = some (Th.closer .wait)) : Progress s := by
  have hc : s.closing = true := hcl.2.2.1 j _ hj rfl
  have hic : s.innerClosed = true := hcl.2.1 j _ hj rfl
  by_cases h0 : s.wg = 0
  · exact ⟨j, by rw [enabled, act_closer hj]; simp only [stepCloser, h0]; rfl⟩
  · have hpos : 0 < s.ths.countP owes := hwg ▸ Nat.pos_of_ne_zero h0
    obtain ⟨th, hm, ho⟩ := List.countP_pos_iff.mp hpos
    obtain ⟨i, hi⟩ := List.getElem?_of_mem hm
    exact ⟨i, owes_progress s hc hic hch hcl i th hi ho⟩

/-- **a Close call that has not returned is never stuck** -/
theorem closer_progress (s : St) (hlk : LkOk s) (hch : ChOk s) (hcl : ClOk s) (hwg : WgOk s)
    (i : Nat) (pc : CPc) (hth : s.ths[i]? = some (Th.closer pc)) (hpc : pc ≠ CPc.ret) : Progress s := by
  cases pc with
  | ret => exact absurd rfl hpc
  | inner => exact ⟨i, by rw [enabled, act_closer hth]; rfl⟩
  | once =>
    refine ⟨i, ?_⟩
    rw [enabled, act_closer hth]; simp only [stepCloser]
    split
    · rfl
    · split <;> rfl
  | unlock => exact ⟨i, by rw [enabled, act_closer hth]; rfl⟩
  | wait => exact wait_progress s hch hcl hwg i hth
  | lock =>
    cases hl : s.wgLock with
    | none => exact ⟨i, by rw [enabled, act_closer hth]; simp only [stepCloser, hl]; rfl⟩
    | some h =>
      -- the lock is held: its holder is past `Lock` and can move, or sits in `Wait`
      obtain ⟨th, hh, hhl⟩ := (hlk h).1 hl
      cases th with
      | pump _ _ _ _ _ => cases hhl
      | sub k pc' =>
        refine ⟨h, ?_⟩
        rw [enabled, act_sub hh]
        cases pc' with
        | add => simp only [stepSub]; split <;> rfl
        | unlock => rfl
        | _ => cases hhl
      | closer pc' =>
        cases pc' with
        | wait => exact wait_progress s hch hcl hwg h hh
        | unlock => exact ⟨h, by rw [enabled, act_closer hh]; rfl⟩
        | _ => cases hhl

end Wm.GcDec
