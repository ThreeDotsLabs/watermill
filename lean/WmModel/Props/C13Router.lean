/-
  C13 – the Router's settle rule used by the poison-queue theorems (`Wm.Poison.routerSettle`, a hand-written restatement
  of C02) is *derived* from the model of `handler.handleMessage` (WmModel/Handle.lean, tied to the Go source by
  `Props/C02Tie.lean`) and the first-wins settlement model of C03: for every result `o` of the poison middleware,
  every handler configuration with a publisher, every verdict of the handler's publisher on the outputs and every
  kind of message, the settlement the subscriber sees after `handleMessage` is `routerSettle o okp`
  (`routerSettle_eq_handle`).  So `acked_implies_handled_or_poisoned` and its companions speak about the settlement
  the tied `handleMessage` really produces (`acked_by_handleMessage_implies_handled_or_poisoned`).
-/
import WmModel.Poison
import WmModel.Props.C13
import WmModel.Props.C02
namespace Wm.Poison
open Wm.Handle (Cfg Outcome Result PubOutcome handle sentAfter)

/-- how the middleware's result looks to `handleMessage`: a panic of the poison publisher propagates (the chain panics),
    a returned error is an error, otherwise the outputs are returned -/
def toOutcome (o : Out) : Outcome Msg :=
  match o.err with
  | some (.panicked _) => ⟨none, .panics .value⟩
  | some _             => ⟨none, .returns o.outs true⟩
  | none               => ⟨none, .returns o.outs false⟩

/-- the verdict of the handler's own publisher on the outputs -/
def pubOf (okp : Bool) : PubOutcome := if okp then .accept else .error

def Settle.toSent : Settle → Ack.Sent
  | .ack => .ack
  | .nack => .nack

/-- **the settle rule is the one of `handleMessage`** (also when the handler's publisher panics instead of refusing:
    `routerSettle_eq_handle_panic`) -/
theorem routerSettle_eq_handle (k : Ack.Kind) (c : Cfg) (hc : c.kind = .withPub) (o : Out) (okp : Bool) :
    sentAfter k (handle c (toOutcome o) (pubOf okp)) = (routerSettle o okp).toSent := by
  unfold toOutcome routerSettle
  cases he : o.err with
  | some e => cases e <;> simp [Handle.sentAfter_handle, Handle.ending_panics, Handle.ending_error, Settle.toSent]
  | none =>
    simp only [Handle.sentAfter_handle]
    by_cases hne : o.outs = []
    · simp [hne, Handle.ending_nil, Settle.toSent]
    · rw [Handle.ending_withPub hc none hne]
      cases okp <;> simp [pubOf, hne, Settle.toSent]

/-- a handler's publisher that panics on the outputs: Nack, as when it refuses them -/
theorem routerSettle_eq_handle_panic (k : Ack.Kind) (c : Cfg) (o : Out) (hne : o.outs ≠ []) :
    sentAfter k (handle c (toOutcome o) .panic) = .nack := by
  unfold toOutcome
  cases he : o.err with
  | some e => cases e <;> simp [Handle.sentAfter_handle, Handle.ending_panics, Handle.ending_error]
  | none =>
    simp only [Handle.sentAfter_handle]
    by_cases hk : c.kind = .withPub
    · simp [Handle.ending_withPub hk none hne]
    · simp [Handle.ending_nopub hk none hne]

/-- **C13's central clause on the tied `handleMessage` model**: if the subscriber sees an Ack after `handleMessage` ran
    the poison middleware's result, the handler succeeded or the message (same uuid and payload) was accepted by the
    poison publisher on the poison topic -/
theorem acked_by_handleMessage_implies_handled_or_poisoned (ptopic : Str) (filter : HErr → Bool) (pub : POut) (c : Ctx)
    (msg : Msg) (h : HRes) (k : Ack.Kind) (cfg : Cfg) (hc : cfg.kind = .withPub) (okp : Bool)
    (hack : sentAfter k (handle cfg (toOutcome (middleware ptopic filter pub c msg h)) (pubOf okp)) = .ack) :
    h.err = none ∨
    ∃ e m', h.err = some e ∧ filter e = true ∧ pub = .ok ∧
      (middleware ptopic filter pub c msg h).pubs = [(ptopic, m')] ∧ m'.uuid = msg.uuid ∧ m'.payload = msg.payload := by
  apply acked_implies_handled_or_poisoned ptopic filter pub c msg h okp
  rw [routerSettle_eq_handle k cfg hc] at hack
  cases hs : routerSettle (middleware ptopic filter pub c msg h) okp with
  | ack => rfl
  | nack => rw [hs] at hack; cases hack

/-! ### non-vacuity -/
example : sentAfter .new (handle ⟨.withPub, "out"⟩
    (toOutcome (middleware (ascii "poison") (fun _ => true) .ok default default ⟨[], [], some (.plain (ascii "boom") false)⟩))
    (pubOf true)) = .ack := by decide
example : sentAfter .new (handle ⟨.withPub, "out"⟩
    (toOutcome (middleware (ascii "poison") (fun _ => true) (.fail (ascii "down")) default default
      ⟨[], [], some (.plain (ascii "boom") false)⟩)) (pubOf true)) = .nack := by decide

end Wm.Poison
