import WmModel.Lemmas.GcProdLink
import WmModel.Lemmas.GcRegDw
namespace Wm.GcProd
open Wm Wm.Lts

/-- the unsubscribe goroutine has finished `s.Close()` -/
def pastClose : GcReg.TPc → Bool
  | .idle | .subClosed => false
  | _ => true

/-- the distinguished subscription and its unsubscribe goroutine: the goroutine exists as long as the subscriber object
    does, and it goes on to `removeSubscriber` only with the subscription closed in M_sub -/
def TdLink (me : Nat) (s : St) : Prop :=
  (s.sub.isSome = true → ∃ (i t : Nat) (pc : GcReg.TPc), s.reg.ths[i]? = some (.td t me pc)) ∧
  (∀ (i t : Nat) (pc : GcReg.TPc), s.reg.ths[i]? = some (.td t me pc) → pastClose pc = true →
      ∃ q, s.sub = some q ∧ q.closed = true)

theorem tl_init (me : Nat) (cfg : GcReg.Cfg) : TdLink me (init cfg) := by simp [TdLink, init, GcReg.init]

def past : GcReg.Th → Bool
  | .td _ _ pc => pastClose pc
  | _ => false

/-- `me`'s unsubscribe goroutines from thread table `l` to `l'` under the registry action `a`: none disappears, and one
    that is past `s.Close()` in `l'` was so in `l`, or has just taken the step from `subClosed` -/
structure TdKeep (me : Nat) (a : GcReg.Action) (l l' : List GcReg.Th) : Prop where
  fwd : ∀ (j t : Nat) (pc : GcReg.TPc), l[j]? = some (.td t me pc) → ∃ pc', l'[j]? = some (.td t me pc')
  back : ∀ (j t : Nat) (pc' : GcReg.TPc), l'[j]? = some (.td t me pc') → pastClose pc' = true →
    ∃ pc, l[j]? = some (.td t me pc) ∧ (pastClose pc = true ∨ (pc = .subClosed ∧ a = .step j))

variable {me : Nat} {a : GcReg.Action} {l l1 : List GcReg.Th}

namespace TdKeep

theorem refl : TdKeep me a l l := ⟨fun _ _ pc h => ⟨pc, h⟩, fun _ _ pc' h hp => ⟨pc', h, .inl hp⟩⟩

theorem append {new : GcReg.Th} (h : TdKeep me a l l1) (hn : past new = false) : TdKeep me a l (l1 ++ [new]) := by
  refine ⟨fun j t pc hj => ?_, fun j t pc' hj hp => ?_⟩
  · obtain ⟨pc', hj'⟩ := h.fwd j t pc hj; exact ⟨pc', append_get_of_get _ _ _ _ hj'⟩
  · rcases get_append_cases _ _ _ _ hj with ⟨_, hj'⟩ | ⟨_, rfl⟩
    · exact h.back j t pc' hj' hp
    · cases hp.symm.trans hn

theorem set {i : Nat} {old new : GcReg.Th} (hold : l[i]? = some old) (htd : GcReg.tdOf new = GcReg.tdOf old)
    (hp : past new = true → past old = true ∨ ∃ t sid, old = .td t sid .subClosed) :
    TdKeep me (.step i) l (l.set i new) := by
  refine ⟨fun j t pc hj => GcReg.td_kept hold htd hj, fun j t pc' hj hpp => ?_⟩
  rcases get_set_cases _ _ _ _ _ hj with ⟨rfl, rfl⟩ | ⟨_, hj'⟩
  · cases old with
    | td t0 sid0 pc =>
      obtain ⟨rfl, rfl⟩ : t = t0 ∧ me = sid0 := by injection htd with h; injection h with h1 h2; exact ⟨h1, h2⟩
      refine ⟨pc, hold, (hp hpp).imp_right ?_⟩
      rintro ⟨_, _, h⟩; injection h with _ _ h; exact ⟨h, rfl⟩
    | _ => cases htd
  · exact ⟨pc', hj', .inl hpp⟩

end TdKeep

theorem td_keep {r r' : GcReg.St} (hr : GcReg.Step r a r') : TdKeep me a r.ths r'.ths := by
  cases hr with
  | newPub | newPubNested | newSub | newClose => exact TdKeep.refl.append rfl
  | cancel | senderDone | panic => exact .refl
  | subTlock i t hth =>
    exact (TdKeep.set (new := .sub t r.nextSid .register) hth rfl (fun h => .inl h)).append (new := .td t r.nextSid .idle) rfl
  | thread hth hm =>
    cases hm with
    | tdSubClosed => exact .set hth rfl (fun _ => .inr ⟨_, _, rfl⟩)
    | _ => exact .set hth rfl (fun h => .inl h)

/-- `me`'s unsubscribe goroutines stay, and those past `s.Close()` were so before or find the subscription closed; the
    instance does not appear from nothing and stays closed if it was -/
theorem tl_frame {s s' : St} (h : TdLink me s)
    (fwd : ∀ (j t : Nat) (pc : GcReg.TPc), s.reg.ths[j]? = some (.td t me pc) → ∃ pc', s'.reg.ths[j]? = some (.td t me pc'))
    (back : ∀ (j t : Nat) (pc' : GcReg.TPc), s'.reg.ths[j]? = some (.td t me pc') → pastClose pc' = true →
      (∃ pc, s.reg.ths[j]? = some (.td t me pc) ∧ pastClose pc = true) ∨ ∃ q', s'.sub = some q' ∧ q'.closed = true)
    (hsome : s'.sub.isSome = true → s.sub.isSome = true)
    (hclosed : ∀ q, s.sub = some q → q.closed = true → ∃ q', s'.sub = some q' ∧ q'.closed = true) : TdLink me s' := by
  refine ⟨fun hs => ?_, fun j t pc' hj hp => ?_⟩
  · obtain ⟨j, t, pc, hj⟩ := h.1 (hsome hs)
    obtain ⟨pc', hj'⟩ := fwd j t pc hj
    exact ⟨j, t, pc', hj'⟩
  · rcases back j t pc' hj hp with ⟨pc, hj0, hp0⟩ | hc
    · obtain ⟨q, hq, hc⟩ := h.2 j t pc hj0 hp0
      exact hclosed q hq hc
    · exact hc

/-- a registry step whose effect on the instance neither creates it nor opens it again -/
theorem tl_reg {s : St} {r' : GcReg.St} {x' : Option GcSub.St × Snd} (h : TdLink me s) (hr : GcReg.Step s.reg a r')
    (hsome : x'.1.isSome = true → s.sub.isSome = true)
    (hclosed : ∀ q, s.sub = some q → q.closed = true → ∃ q', x'.1 = some q' ∧ q'.closed = true)
    (hg : ∀ (j t : Nat), a = .step j → s.reg.ths[j]? = some (.td t me .subClosed) →
      ∃ q', x'.1 = some q' ∧ q'.closed = true) :
    TdLink me ⟨r', x'.1, x'.2⟩ := by
  have hk := td_keep (me := me) hr
  refine tl_frame h hk.fwd (fun j t pc' hj hp => ?_) hsome hclosed
  obtain ⟨pc, hj0, hc | ⟨rfl, ha⟩⟩ := hk.back j t pc' hj hp
  · exact .inl ⟨pc, hj0, hc⟩
  · exact .inr (hg j t ha hj0)

/-- starting senders: the instance stays, closed or not -/
theorem tl_spawn {s : St} {r' : GcReg.St} {i : Nat} {th : GcReg.Th} {od : Option Nat} {msgs : List Nat} (h : TdLink me s)
    (hr : GcReg.Step s.reg (.step i) r') (hth : s.reg.ths[i]? = some th) (hn : ∀ t, th ≠ .td t me .subClosed) :
    TdLink me ⟨r', (msgs.foldl (spawn1 od) (s.sub, s.snd)).1, (msgs.foldl (spawn1 od) (s.sub, s.snd)).2⟩ := by
  cases hq : s.sub with
  | none =>
    rw [foldl_spawn_none]
    exact tl_reg (x' := (none, s.snd)) h hr (fun hx => by cases hx) (fun _ hx => by rw [hq] at hx; cases hx)
      (fun _ _ => not_at_subClosed hth hn)
  | some q =>
    rw [foldl_spawn]
    exact tl_reg (x' := (some _, _)) h hr (fun _ => by rw [hq]; rfl)
      (fun q0 hq0 hc => by rw [hq] at hq0; cases hq0; exact ⟨_, rfl, hc⟩) (fun _ _ => not_at_subClosed hth hn)

/-- an idle instance does not appear from nothing and stays closed if it was -/
theorem idle_closed {o o' : Option GcSub.St} (h : Idle o o') :
    (o'.isSome = true → o.isSome = true) ∧ ∀ q, o = some q → q.closed = true → ∃ q', o' = some q' ∧ q'.closed = true := by
  cases h with
  | same => exact ⟨id, fun q hq hc => ⟨q, hq, hc⟩⟩
  | step h => exact ⟨id, fun q hq hc => by cases hq; exact ⟨_, rfl, (sub_keeps h).2.2 hc⟩⟩

theorem tdlink_step {cap : Nat} {s s' : St} {a : Action} (hctl : ∀ q, s.sub = some q → GcSub.CtlOk q)
    (h : TdLink me s) (hact : act me cap s a = some s') : TdLink me s' := by
  cases step_of_act hact with
  | sub hq ha hs =>
    obtain ⟨h1, h2⟩ := idle_closed (idle_of_sub ha hs)
    exact tl_frame h (fun _ _ pc hj => ⟨pc, hj⟩) (fun _ _ pc' hj hp => .inl ⟨pc', hj, hp⟩)
      (fun hx => by rw [hq]; exact h1 hx) (fun q0 hq0 => h2 q0 (hq ▸ hq0))
  | reg hr he =>
    have hs := GcReg.step_of_act hr
    have same := idle_closed (o := s.sub) .same
    cases he with
    | senderDone => exact tl_reg h hs same.1 same.2 nofun
    | tlock hth => exact tl_reg h hs same.1 same.2 (fun _ _ => not_at_subClosed hth nofun)
    | other _ hidle hg =>
      -- `me`'s unsubscribe goroutine goes on only with M_sub through with `s.Close()`: the subscription is closed
      obtain ⟨h1, h2⟩ := idle_closed hidle
      refine tl_reg h hs h1 h2 (fun j t e hj => ?_)
      obtain ⟨q0, hq0, hdone⟩ := hg j t e hj
      exact h2 q0 hq0 ((hctl q0 hq0).2.2.1.mpr hdone)
    | send hth | register hth => exact tl_spawn h hs hth nofun
    | @create i t _ hth hme ho =>
      -- the subscriber object and its unsubscribe goroutine are created together
      have hk := td_keep (me := me) hs
      have hlen : (s.reg.ths.set i (.sub t s.reg.nextSid .register)).length = s.reg.ths.length := List.length_set
      refine ⟨fun _ => ⟨s.reg.ths.length, t, .idle, ?_⟩, fun j t' pc' hj hp => ?_⟩
      · show (s.reg.ths.set i _ ++ [_])[s.reg.ths.length]? = _
        rw [← hlen, List.getElem?_concat_length, hme]
      · obtain ⟨pc, hj0, hc | ⟨rfl, ha⟩⟩ := hk.back j t' pc' hj hp
        · obtain ⟨q, hq, _⟩ := h.2 j t' pc hj0 hc
          rw [ho] at hq; cases hq
        · cases ha; rw [hth] at hj0; cases hj0

end Wm.GcProd
