/-
  `OrdOk`: the copies of a subscription are grouped by sender and ordered like the senders' lock tenures.
-/
import WmModel.Lemmas.GcSubCtl
import WmModel.Lemmas.ListIdx
namespace Wm.GcSub
open Wm.Ack (Sent)

/-- the sender of `p` ended before the sender of `p'` (`exits` lists the ended senders in the order they ended) -/
def exitedBefore (s : St) (p p' : Nat) : Prop :=
  ∃ (a b : Nat) (r r' : Exit), a < b ∧ s.exits[a]? = some (p, r) ∧ s.exits[b]? = some (p', r')

/-- copies are grouped by sender and ordered like the senders' lock tenures: of two copies of different publications the
    earlier one belongs to a sender that has ended, and the later one to the lock holder or to a sender that ended later -/
def OrdOk (s : St) : Prop :=
  (∀ (i j : Nat) (ci cj : Copy), i < j → s.copies[i]? = some ci → s.copies[j]? = some cj → ci.pub ≠ cj.pub →
    (∃ r, (ci.pub, r) ∈ s.exits) ∧
    ((∃ pc c, s.holder = .sender cj.pub pc c) ∨ exitedBefore s ci.pub cj.pub)) ∧
  -- a copy belongs to the lock holder or to a sender that has ended
  (∀ (i : Nat) (ci : Copy), s.copies[i]? = some ci → (∃ r, (ci.pub, r) ∈ s.exits) ∨ (∃ pc c, s.holder = .sender ci.pub pc c))

theorem ord_init (cap : Nat) : OrdOk (init cap) := ⟨fun _ _ _ _ _ hi => init_no_copy hi, fun _ _ hi => init_no_copy hi⟩

/-- no sender ends, every copy keeps its publication, the lock stays with the sender of the same publication -/
theorem ord_keep {s u : St} (h : OrdOk s)
    (hc : ∀ (i : Nat) (ci : Copy), u.copies[i]? = some ci → ∃ ci0, s.copies[i]? = some ci0 ∧ ci.pub = ci0.pub)
    (he : u.exits = s.exits)
    (hh : ∀ p, (∃ pc c, s.holder = .sender p pc c) → ∃ pc c, u.holder = .sender p pc c) : OrdOk u := by
  obtain ⟨o1, o2⟩ := h
  unfold OrdOk exitedBefore
  rw [he]
  refine ⟨fun i j ci cj hij hi hj hne => ?_, fun i ci hi => ?_⟩
  · obtain ⟨ci0, hsi, epi⟩ := hc i ci hi
    obtain ⟨cj0, hsj, epj⟩ := hc j cj hj
    rw [epi, epj] at hne ⊢
    exact (o1 i j ci0 cj0 hij hsi hsj hne).imp id (Or.imp_left (hh _))
  · obtain ⟨ci0, hsi, epi⟩ := hc i ci hi
    rw [epi]
    exact (o2 i ci0 hsi).imp_right (hh _)

/-- `modify` with a function that keeps `pub` -/
theorem ord_modify {s u : St} (h : OrdOk s) {c0 : Nat} {f : Copy → Copy} (hc : u.copies = s.copies.modify c0 f)
    (hf : ∀ cp, (f cp).pub = cp.pub) (he : u.exits = s.exits)
    (hh : ∀ p, (∃ pc c, s.holder = .sender p pc c) → ∃ pc c, u.holder = .sender p pc c) : OrdOk u := by
  refine ord_keep h (fun i ci hi => ?_) he hh
  rcases getElem?_modify_some _ _ _ _ _ (hc ▸ hi) with ⟨_, x, hx, rfl⟩ | ⟨_, hx⟩
  · exact ⟨x, hx, hf x⟩
  · exact ⟨ci, hx, rfl⟩

/-- the lock holder's sender ends -/
theorem ord_exit {s : St} (h : OrdOk s) {p c : Nat} {pc : SPc} (r : Exit) (hh : s.holder = .sender p pc c) :
    OrdOk (exitSender s p r) := by
  obtain ⟨o1, o2⟩ := h
  have hmem : ∀ {q}, (∃ r', (q, r') ∈ s.exits) → ∃ r', (q, r') ∈ s.exits ++ [(p, r)] :=
    fun ⟨r', hm⟩ => ⟨r', List.mem_append_left _ hm⟩
  have holderP : ∀ {q}, (∃ pc' c', s.holder = .sender q pc' c') → q = p := by
    intro q ⟨pc', c', hq⟩; rw [hh] at hq; cases hq; rfl
  refine ⟨fun i j ci cj hij hi hj hne => ?_, fun i ci hi => ?_⟩
  · obtain ⟨⟨r1, h1⟩, h2⟩ := o1 i j ci cj hij hi hj hne
    refine ⟨hmem ⟨r1, h1⟩, Or.inr ?_⟩
    rcases h2 with h2 | ⟨a, b, r1, r2, hab, ha, hb⟩
    · -- `cj` belongs to the sender that ends now: it ends after the (already ended) sender of `ci`
      obtain ⟨a, ha⟩ := List.getElem?_of_mem h1
      exact ⟨a, s.exits.length, r1, r, (List.getElem?_eq_some_iff.mp ha).1, append_get_of_get _ _ _ _ ha,
        holderP h2 ▸ List.getElem?_concat_length⟩
    · exact ⟨a, b, r1, r2, hab, append_get_of_get _ _ _ _ ha, append_get_of_get _ _ _ _ hb⟩
  · exact .inl ((o2 i ci hi).elim hmem (fun h1 => ⟨r, holderP h1 ▸ List.mem_append_right _ (List.mem_singleton_self _)⟩))

/-- the lock holder prepares a delivery: a new copy of its publication at the end -/
theorem ord_append {s u : St} (h : OrdOk s) {p c : Nat} {pc : SPc} {x : Copy} (hh : s.holder = .sender p pc c)
    (hc : u.copies = s.copies ++ [x]) (hx : x.pub = p) (he : u.exits = s.exits)
    (hu : ∃ pc' c', u.holder = .sender p pc' c') : OrdOk u := by
  obtain ⟨o1, o2⟩ := h
  have holderP : ∀ {q}, (∃ pc' c', s.holder = .sender q pc' c') → ∃ pc' c', u.holder = .sender q pc' c' := by
    intro q ⟨pc', c', hq⟩; rw [hh] at hq; cases hq; exact hu
  unfold OrdOk exitedBefore
  rw [he, hc]
  refine ⟨fun i j ci cj hij hi hj hne => ?_, fun i ci hi => ?_⟩
  · rcases get_append_cases _ _ _ _ hj with ⟨hjl, hj'⟩ | ⟨hje, rfl⟩
    · rw [List.getElem?_append_left (Nat.lt_trans hij hjl)] at hi
      exact (o1 i j ci cj hij hi hj' hne).imp id (Or.imp_left holderP)
    · -- the new copy is the holder's: an earlier copy of another publication belongs to an ended sender
      rw [List.getElem?_append_left (hje ▸ hij)] at hi
      rw [hx] at hne ⊢
      refine ⟨(o2 i ci hi).elim id (fun h1 => ?_), .inl hu⟩
      obtain ⟨_, _, h1⟩ := h1
      rw [hh] at h1; cases h1; exact absurd rfl hne
  · rcases get_append_cases _ _ _ _ hi with ⟨_, hi'⟩ | ⟨_, rfl⟩
    · exact (o2 i ci hi').imp_right holderP
    · exact .inr (hx ▸ hu)

theorem ord_step (s : St) (a : Action) (s' : St) (hctl : CtlOk s) (h : OrdOk s) (ha : act s a = some s') : OrdOk s' := by
  have keep : ∀ {u : St}, u.copies = s.copies → u.exits = s.exits →
      (∀ p, (∃ pc c, s.holder = .sender p pc c) → ∃ pc c, u.holder = .sender p pc c) → OrdOk u :=
    fun e1 e2 e3 => ord_keep h (fun i ci hi => ⟨ci, e1 ▸ hi, rfl⟩) e2 e3
  cases step_of_act ha with
  | sLock hf _ | tdLock _ hf => exact keep rfl rfl (no_holder_pub (by rw [hf]; nofun))
  | tdClose htd _ =>
    -- the closer holds the lock (`td = locked`), so no sender does
    exact keep rfl rfl (no_holder_pub (by rw [hctl.2.2.2.2.1.mpr htd]; nofun))
  | sCheck hh _ | sObsNack hh _ _ => exact keep rfl rfl (holder_pub_stays hh _ _)
  | leave hh _ => exact ord_exit h _ hh
  | sTop hh _ => exact ord_append h hh rfl rfl rfl ⟨_, _, rfl⟩
  | sendDirect hh _ _ | sendBuf hh _ _ _ => exact ord_modify h rfl (fun _ => rfl) rfl (holder_pub_stays hh _ _)
  | recv _ | settle _ _ _ => exact ord_modify h rfl (fun _ => rfl) rfl (fun _ => id)
  | _ => exact h

end Wm.GcSub
