/-
  The codec hypothesis of the C16 round-trip theorems is satisfiable: the concrete wire codec of
  `ValueCodec.lean` (`Wire.envCodec`, used by the driver to run the glue) round-trips on every envelope,
  and so does the identity codec on tokens.  Parser lemmas have the compositional form
  `parse (ser x ++ rest) = some (x, rest)`.
-/
import WmModel.ValueCodec
namespace Wm.Value.Wire

theorem char_lt (c : Char) : c.toNat < 0x110000 := by
  have h := c.valid
  have : c.toNat = c.val.toNat := rfl
  rw [this]
  unfold UInt32.isValidChar Nat.isValidChar at h
  omega

theorem parNat_serNat (n : Nat) (rest : Bytes) : parNat (serNat n ++ rest) = some (n, rest) := by
  induction n with
  | zero => simp [serNat, parNat]
  | succ n ih => simp [serNat, parNat, ih]

/-- three bytes, big endian, hold any number below 2^24 (the top byte is then below 256 as it stands) -/
theorem three_bytes {n : Nat} (h : n < 0x110000) :
    (UInt8.ofNat (n / 65536)).toNat * 65536 + (UInt8.ofNat (n / 256 % 256)).toNat * 256
      + (UInt8.ofNat (n % 256)).toNat = n := by
  have h1 : n / 65536 % 256 = n / 65536 := Nat.mod_eq_of_lt (by omega)
  simp only [UInt8.toNat_ofNat', Nat.mod_mod, h1]
  omega

theorem parChars_serChars (cs : List Char) (rest : Bytes) :
    parChars cs.length (serChars cs ++ rest) = some (cs, rest) := by
  induction cs with
  | nil => simp [serChars, parChars]
  | cons c cs ih =>
    simp only [serChars, serChar, List.length_cons, List.cons_append, List.nil_append, parChars, ih,
      Option.map_some, three_bytes (char_lt c), Char.ofNat_toNat]

theorem parStr_serStr (s : String) (rest : Bytes) : parStr (serStr s ++ rest) = some (s, rest) := by
  simp [parStr, serStr, List.append_assoc, parNat_serNat, parChars_serChars, String.ofList_toList]

theorem parBytes_serBytes (b rest : Bytes) : parBytes (serBytes b ++ rest) = some (b, rest) := by
  simp [parBytes, serBytes, List.append_assoc, parNat_serNat]

theorem parOpt_serOpt {α : Type} (ser : α → Bytes) (par : Parser α)
    (h : ∀ x rest, par (ser x ++ rest) = some (x, rest)) (o : Option α) (rest : Bytes) :
    parOpt par (serOpt ser o ++ rest) = some (o, rest) := by
  cases o with
  | none => simp [serOpt, parOpt]
  | some x => simp [serOpt, parOpt, h]

theorem serMeta_length_pos (m : Meta) : 0 < (serMeta m).length := by
  cases m with
  | nil => simp [serMeta]
  | cons e r => obtain ⟨k, v⟩ := e; simp [serMeta]

theorem parMetaAux_serMeta (m : Meta) (rest : Bytes) (fuel : Nat) (hf : (serMeta m).length ≤ fuel) :
    parMetaAux fuel (serMeta m ++ rest) = some (m, rest) := by
  induction m generalizing fuel with
  | nil =>
    cases fuel with
    | zero => simp [serMeta] at hf
    | succ f => simp [serMeta, parMetaAux]
  | cons e r ih =>
    obtain ⟨k, v⟩ := e
    cases fuel with
    | zero => simp [serMeta] at hf
    | succ f =>
      have hf' : (serMeta r).length ≤ f := by
        simp only [serMeta, List.length_cons, List.length_append] at hf
        omega
      simp [serMeta, parMetaAux, List.append_assoc, parStr_serStr, ih f hf']

theorem parMeta_serMeta (m : Meta) (rest : Bytes) : parMeta (serMeta m ++ rest) = some (m, rest) := by
  unfold parMeta
  apply parMetaAux_serMeta
  simp only [List.length_append]
  omega

theorem parEnv_serEnv (e : Envelope) : parEnv (serEnv e) = some (e, []) := by
  have h4 := parOpt_serOpt serMeta parMeta parMeta_serMeta e.metadata []
  have h3 := parOpt_serOpt serBytes parBytes parBytes_serBytes e.payload (serOpt serMeta e.metadata)
  simp only [List.append_nil] at h4
  simp [parEnv, serEnv, List.append_assoc, parStr_serStr, h3, h4]

/-- the wire codec satisfies the codec hypothesis on *all* envelopes -/
theorem wire_round_trips : Wire.envCodec.RoundTrips := by
  intro e b h
  simp only [envCodec, Option.some.injEq] at h
  subst h
  simp [envCodec, parEnv_serEnv]

theorem token_round_trips : Wire.tokenCodec.RoundTrips := by
  intro x b h
  simp only [tokenCodec, Option.some.injEq] at h
  subst h; rfl

end Wm.Value.Wire
