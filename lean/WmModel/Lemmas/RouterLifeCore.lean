/-
  The core safety invariant of Router.Close (the D5 mechanism): once the waiter has seen `handlersWg = 0` every
  receive loop has ended for good, hence nothing is dispatched any more, hence `runningHandlersWg = 0` is stable.
-/
import WmModel.Lemmas.RouterLifeHandler
namespace Wm.RouterLife
open Wm.Lts

structure CoreOk (s : St) : Prop where
  a1 : s.wA = true → s.closed = true
  a2 : s.wA = true → ∀ h ∈ s.hs, h.loop.ended = true
  b  : s.wB ≠ .idle → s.wA = true
  c  : s.wB = .done → ∀ m ∈ s.msgs, m.stage.inFlight = false
  d  : s.closeNil = true → s.wA = true ∧ s.wB = .done

theorem core_init : CoreOk init := by
  constructor <;> simp [init]

variable {fx : Fix} {s s' : St} {i m : Nat} {x : Handler} {y : Msg}

/-- a loop that has not ended: the waiter has not seen `handlersWg = 0` … -/
theorem CoreOk.not_wA (h : CoreOk s) (hx : s.hs[i]? = some x) (hl : x.loop.ended = false) : s.wA = true → False :=
  fun hw => by rw [h.a2 hw x (List.mem_of_getElem? hx)] at hl; cases hl

/-- … so it has not got as far as `runningHandlersWg.Wait()` either -/
theorem CoreOk.not_done (h : CoreOk s) (hx : s.hs[i]? = some x) (hl : x.loop.ended = false) : s.wB = .done → False :=
  fun hb => h.not_wA hx hl (h.b (by rw [hb]; nofun))

/-- the waiter's flags and `closed` are left alone: loops that had ended have ended, nothing new is in flight -/
theorem core_upd (h : CoreOk s) (H : s.wA = true → ∀ h' ∈ s'.hs, h'.loop.ended = true)
    (M : s.wB = .done → ∀ m' ∈ s'.msgs, m'.stage.inFlight = false) (e1 : s'.wA = s.wA := by rfl)
    (e2 : s'.closed = s.closed := by rfl) (e3 : s'.wB = s.wB := by rfl) (e4 : s'.closeNil = s.closeNil := by rfl) :
    CoreOk s' :=
  ⟨by rw [e1, e2]; exact h.a1, by rw [e1]; exact H, by rw [e1, e3]; exact h.b, by rw [e3]; exact M,
    by rw [e1, e3, e4]; exact h.d⟩

theorem core_step {a : Action} (hfx : fx.d5 = true) (hl : LifeOk fx s) (h : CoreOk s) (hs : Step fx s a s') :
    CoreOk s' := by
  -- a handler changes, its loop as it was
  have keepH {i : Nat} {g : Handler → Handler} (hg : ∀ x, (g x).loop = x.loop) (hw : s.wA = true) :
      ∀ h' ∈ s.hs.modify i g, h'.loop.ended = true :=
    forall_mem_modify _ _ _ _ (h.a2 hw) fun x _ he => by rw [hg x]; exact he
  -- a message moves to a stage that is not in flight
  have restM {m : Nat} {u : Msg → Msg} (hu : ∀ y, (u y).stage.inFlight = false) (hb : s.wB = .done) :
      ∀ m' ∈ s.msgs.modify m u, m'.stage.inFlight = false :=
    forall_mem_modify _ _ _ _ (h.c hb) fun y _ _ => hu y
  cases hs with
  -- AddHandler is not called on a closed router
  | addHandlerTok _ hc | addHandlerSel _ hc | addHandlerDrop _ hc =>
    exact core_upd h (fun hw => by rw [h.a1 hw] at hc; cases hc) h.c
  -- Close and its waiter: loops first, then (fix D5) the lock and the running handlers
  | closeHL => exact ⟨fun _ => rfl, h.a2, h.b, h.c, h.d⟩
  | closeDone _ hA hB => exact ⟨h.a1, h.a2, h.b, h.c, fun _ => ⟨hA, hB⟩⟩
  | wLoops hc _ hend =>
    exact ⟨fun _ => hc, fun _ => (loopsEnded_iff s).mp hend, fun _ => rfl, h.c, fun hn => ⟨rfl, (h.d hn).2⟩⟩
  | wLock _ hB hA =>
    exact ⟨h.a1, h.a2, fun _ => hA hfx, nofun, fun hn => by have := (h.d hn).2; rw [hB] at this; cases this⟩
  | wRunning hB hq =>
    have hA := h.b (by rw [hB]; nofun)
    exact ⟨h.a1, h.a2, fun _ => hA, fun _ => (noneInFlight_iff s).mp hq, fun _ => ⟨hA, rfl⟩⟩
  -- a loop that still runs: the waiter has not passed `handlersWg.Wait()`, so a message may be dispatched
  | rhSpawn hhl =>
    obtain ⟨x, hx, c⟩ := hl.cur _ 2 (by rw [hhl]; rfl)
    exact core_upd h (fun hw => (h.not_wA hx (by rw [c.c2]; rfl) hw).elim) h.c
  | pumpOut hx _ hlp =>
    exact core_upd h (fun hw => (h.not_wA hx (by rw [hlp]; rfl) hw).elim) (restM fun _ => rfl)
  | dispatch hx hlp =>
    exact core_upd h (fun hw => (h.not_wA hx (by rw [hlp]; rfl) hw).elim)
      fun hb => (h.not_done hx (by rw [hlp]; rfl) hb).elim
  | loopEnd hx hlp | pubClose hx hlp =>
    exact core_upd h (fun hw => (h.not_wA hx (by rw [hlp]; rfl) hw).elim) h.c
  -- the loop's tail: ended it stays
  | wgDone | loopDelete =>
    exact core_upd h
      (fun hw => forall_mem_modify _ _ _ _ (h.a2 hw) fun _ _ _ => rfl) h.c
  -- an invocation in flight stays in flight or finishes
  | emit =>
    refine core_upd h (keepH fun _ => rfl) fun hb z hz => ?_
    rcases List.mem_append.mp hz with hz | hz
    · exact h.c hb z hz
    · cases List.mem_singleton.mp hz; rfl
  | pumpDrop => exact core_upd h (keepH fun _ => rfl) (restM fun _ => rfl)
  | hStart hx hst | hReturnOk hx hst | hPublishedOk hx hst =>
    refine core_upd h h.a2 fun hb => ?_
    have := h.c hb _ (List.mem_of_getElem? hx)
    rw [hst] at this; cases this
  | hReturnErr | hPublishedErr | hSettle => exact core_upd h h.a2 (restM fun _ => rfl)
  -- the other steps of a handler leave its loop alone
  | rhSub | pumpEnd | innerCtx | hcClose | hcCtxClose | hcCtxStop | hcInnerRet | hcCloseFail | hcPumpWaited | hcStop
  | stop =>
    exact core_upd h (keepH fun _ => rfl) h.c
  | rhStep0 | rhStep1 => exact core_upd h (keepH fun _ => by cases fx.d7 <;> rfl) h.c
  | _ => exact core_upd h h.a2 h.c

theorem reach_core (fx : Fix) (hfx : fx.d5 = true) : ∀ s, Reach (sys fx) s → CoreOk s :=
  inv_of_step' (sys fx) CoreOk core_init fun s _ _ hr h ha => core_step hfx (reach_life fx s hr) h (step_of_act ha)

end Wm.RouterLife
