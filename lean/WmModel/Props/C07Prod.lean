/-
  C07 end to end on the composition M_prod (GcProd.lean): "after Close has returned every output channel is closed".
  For an arbitrary subscription `me`: once any Close call has returned, the subscription's M_sub instance (if the
  subscriber object was ever created) is closed and its output channel is closed – because Close waits for the
  unsubscribe goroutine of `me` (M_reg: `after_close_returned`), and that goroutine goes on to `removeSubscriber` only after
  `s.Close()` is through in M_sub (`TdLink`).  Exactly once and without panic are M_sub's `outchan_closed_at_most_once` /
  `never_panics`, which hold in the product by the composition lemma.
-/
import WmModel.Lemmas.GcProdTd
import WmModel.Props.C05
import WmModel.Props.C07Close
import WmModel.Props.C05Prod
namespace Wm.GcProd
open Wm Wm.Lts

theorem reach_tdlink (me cap : Nat) (cfg : GcReg.Cfg) : ∀ s, Reach (sys me cap cfg) s → TdLink me s :=
  inv_of_step' (sys me cap cfg) (TdLink me) (tl_init me cfg)
    (fun s _ _ hr h ha => tdlink_step (fun q hq => GcSub.reach_ctl cap q (reach_sub me cap cfg s hr q hq)) h ha)

/-- **after Close has returned every output channel is closed** -/
theorem after_close_channel_closed (me cap : Nat) (cfg : GcReg.Cfg) (s : St) (h : Reach (sys me cap cfg) s)
    (i : Nat) (hi : s.reg.ths[i]? = some (.closer .ret)) (q : GcSub.St) (hq : s.sub = some q) :
    q.closed = true ∧ q.chanClosed = true ∧ q.td = .done ∧ q.panicked = false := by
  have hr := reach_reg me cap cfg s h
  have hsubr := reach_sub me cap cfg s h q hq
  obtain ⟨_, _, _, _, hnd, _⟩ := GcReg.after_close_returned cfg s.reg hr i hi
  obtain ⟨j, t, pc, hj⟩ := (reach_tdlink me cap cfg s h).1 (by rw [hq]; rfl)
  have hdone : pc = .done := by
    have := hnd j _ hj
    cases pc <;> simp [GcReg.needsDone] at this
    rfl
  subst hdone
  obtain ⟨q2, hq2, hc⟩ := (reach_tdlink me cap cfg s h).2 j t .done hj rfl
  rw [hq] at hq2; injection hq2 with hq2; subst hq2
  have hctl := GcSub.reach_ctl cap q hsubr
  exact ⟨hc, by rw [hctl.2.2.2.1]; exact hc, hctl.2.2.1.mp hc, hctl.1⟩

/-- non-vacuity: subscribe, close the Pub/Sub, the unsubscribe goroutine closes the subscription in M_sub and removes it,
    Close returns – the hypotheses of `after_close_channel_closed` are met and the channel is closed -/
def closeRun : List Action :=
  [.reg (.newSub 0), .reg (.step 0), .reg (.step 0), .reg (.step 0), .reg (.step 0), .reg (.step 0), .reg (.step 0),
   .reg .newClose, .reg (.step 2),
   .reg (.step 1), .sub .tdStart, .sub .tdLock, .sub .tdClose,
   .reg (.step 1), .reg (.step 1), .reg (.step 1), .reg (.step 1), .reg (.step 1), .reg (.step 2)]

theorem close_witness :
    ∃ s q, exec (sys 0 1 ⟨false, false⟩) (init ⟨false, false⟩) closeRun = some s ∧ s.sub = some q ∧
      s.reg.ths[2]? = some (.closer .ret) ∧ q.chanClosed = true ∧ s.reg.subs = [] := by
  refine ⟨_, _, rfl, rfl, ?_, ?_, ?_⟩ <;> decide

/-- … and the unsubscribe goroutine cannot get past `s.Close()` while M_sub has not closed the subscription -/
theorem close_waits_for_msub :
    ∃ s, exec (sys 0 1 ⟨false, false⟩) (init ⟨false, false⟩) (closeRun.take 10) = some s ∧
      act 0 1 s (.reg (.step 1)) = none ∧ (GcReg.act s.reg (.step 1)).isSome = true := by
  refine ⟨_, rfl, ?_, ?_⟩ <;> decide

end Wm.GcProd
