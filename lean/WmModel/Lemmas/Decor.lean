/-
  Lemmas for C20 (`Props/C20.lean`): the metadata map under a stamp, whole seconds and saturated durations, and what
  `applyDelay` and the loop over the batch do to a message.
-/
import WmModel.Decor
namespace Wm.Decor

theorem mget_mset (m : MD) (k k' : String) (v : Val) :
    mget (mset m k v) k' = if k = k' then v else mget m k' := by
  induction m with
  | nil => rfl
  | cons kv r ih =>
    by_cases h0 : kv.1 = k
    · subst h0; simp only [mset, if_true, mget]; split <;> rfl
    · by_cases h1 : k = k'
      · subst h1; simp only [mset, if_neg h0, mget, ih, if_true]
      · simp only [mset, if_neg h0, mget, ih, if_neg h1]

theorem stamp_for (m : Msg) (d : Delay) : mget (stamp m d).md forKey = .dur d.dur := by
  simp only [stamp, mget_mset, if_true]

theorem forKey_ne_untilKey : forKey ≠ untilKey := by simp [forKey, untilKey]

theorem stamp_until (m : Msg) (d : Delay) : mget (stamp m d).md untilKey = renderTime d.time d.zone := by
  simp only [stamp, mget_mset, if_true, if_neg forKey_ne_untilKey]

theorem stamp_other (m : Msg) (d : Delay) (k : String) (h1 : k ≠ forKey) (h2 : k ≠ untilKey) :
    mget (stamp m d).md k = mget m.md k := by
  simp only [stamp, mget_mset, if_neg h1.symm, if_neg h2.symm]

theorem stamp_for_nonempty (m : Msg) (d : Delay) : mget (stamp m d).md forKey ≠ Val.empty := by
  rw [stamp_for]; exact Val.noConfusion

theorem secOf_bounds (t : Int) : secOf t * 1000000000 ≤ t ∧ t < secOf t * 1000000000 + 1000000000 := by
  unfold secOf; omega

theorem satDur_of_fits {x : Int} (h1 : minDur ≤ x) (h2 : x ≤ maxDur) : satDur x = x := by
  rw [satDur, if_neg (Int.not_lt.mpr h2), if_neg (Int.not_lt.mpr h1)]

theorem satDur_above {x : Int} (h : x > maxDur) : satDur x = maxDur := if_pos h

theorem satDur_below {x : Int} (h : x < minDur) : satDur x = minDur := by
  have : ¬ x > maxDur := fun h' => absurd (Int.lt_trans h' h) (by decide)
  rw [satDur, if_neg this, if_pos h]

/-- what `applyDelay` does is determined by `sourceOf`: at most one source is used, and the message is either
    untouched or carries exactly the stamp of that one source -/
theorem delay_one_source (cfg : DelayCfg) (topic : String) (m : Msg) :
    match sourceOf cfg topic m with
    | .metadata | .allowed => applyDelay cfg topic m = (none, m, false)
    | .context => ∃ d, m.ctxDelay = some d ∧ applyDelay cfg topic m = (none, stamp m d, false)
    | .generator => ∃ g d, cfg.gen = some g ∧ g topic m = some d ∧ applyDelay cfg topic m = (none, stamp m d, true)
    | .genError => applyDelay cfg topic m = (some .gen, m, true)
    | .refused => applyDelay cfg topic m = (some .noDelay, m, false) := by
  unfold sourceOf applyDelay
  by_cases h : mget m.md forKey ≠ Val.empty
  · rw [if_pos h, if_pos h]
  · rw [if_neg h, if_neg h]
    cases hc : m.ctxDelay with
    | some d => exact ⟨d, rfl, rfl⟩
    | none =>
      cases hg : cfg.gen with
      | none => cases cfg.allowNoDelay <;> rfl
      | some g =>
        cases hd : g topic m with
        | none => simp only [hd]
        | some d => simp only [hd]; exact ⟨g, d, rfl, hd, rfl⟩

/-- the two ways `applyDelay` ends, as the loop over the batch sees them: no error, the message as it came or stamped
    once; or an error, the message as it came -/
theorem applyDelay_cases (cfg : DelayCfg) (topic : String) (m : Msg) :
    ((sourceOf cfg topic m ≠ .genError ∧ sourceOf cfg topic m ≠ .refused) ∧
      ∃ m' g, applyDelay cfg topic m = (none, m', g) ∧ (m' = m ∨ ∃ d, m' = stamp m d)) ∨
    (¬(sourceOf cfg topic m ≠ .genError ∧ sourceOf cfg topic m ≠ .refused) ∧
      ∃ e g, applyDelay cfg topic m = (some e, m, g) ∧ (e = .gen ∨ e = .noDelay)) := by
  have h := delay_one_source cfg topic m
  cases hs : sourceOf cfg topic m <;> rw [hs] at h <;> simp only at h
  · exact .inl ⟨by decide, _, _, h, .inl rfl⟩
  · obtain ⟨d, _, h⟩ := h; exact .inl ⟨by decide, _, _, h, .inr ⟨d, rfl⟩⟩
  · obtain ⟨_, d, _, _, h⟩ := h; exact .inl ⟨by decide, _, _, h, .inr ⟨d, rfl⟩⟩
  · exact .inr ⟨by decide, _, _, h, .inl rfl⟩
  · exact .inl ⟨by decide, _, _, h, .inl rfl⟩
  · exact .inr ⟨by decide, _, _, h, .inr rfl⟩

theorem applyAll_cons_ok {cfg : DelayCfg} {topic : String} {m m' : Msg} {g : Bool} (rest : List Msg)
    (h : applyDelay cfg topic m = (none, m', g)) :
    applyAll cfg topic (m :: rest) = (m' :: (applyAll cfg topic rest).1, (applyAll cfg topic rest).2.1,
      (if g then [m.id] else []) ++ (applyAll cfg topic rest).2.2) := by
  simp only [applyAll, h]

theorem applyAll_cons_err {cfg : DelayCfg} {topic : String} {m m' : Msg} {e : Err} {g : Bool} (rest : List Msg)
    (h : applyDelay cfg topic m = (some e, m', g)) :
    applyAll cfg topic (m :: rest) = (m' :: rest, some e, if g then [m.id] else []) := by
  simp only [applyAll, h]

theorem applyAll_error_kind (cfg : DelayCfg) (topic : String) (ms : List Msg) (e : Err)
    (he : (applyAll cfg topic ms).2.1 = some e) : e = .noDelay ∨ e = .gen := by
  induction ms with
  | nil => cases he
  | cons m tl ih =>
    rcases applyDelay_cases cfg topic m with ⟨_, _, _, h, _⟩ | ⟨_, _, _, h, hk⟩
    · rw [applyAll_cons_ok tl h] at he; exact ih he
    · rw [applyAll_cons_err tl h] at he; cases he; exact hk.symm

/-- the loop keeps the batch in order and whatever of a message a stamp does not touch -/
theorem applyAll_map {β : Type} (f : Msg → β) (hf : ∀ m d, f (stamp m d) = f m) (cfg : DelayCfg) (topic : String)
    (ms : List Msg) : (applyAll cfg topic ms).1.map f = ms.map f := by
  induction ms with
  | nil => rfl
  | cons m rest ih =>
    rcases applyDelay_cases cfg topic m with ⟨_, m', g, h, hm⟩ | ⟨_, e, g, h, _⟩
    · rw [applyAll_cons_ok rest h, List.map_cons, List.map_cons, ih]
      rcases hm with rfl | ⟨d, rfl⟩
      · rfl
      · rw [hf]
    · rw [applyAll_cons_err rest h]

theorem applyAll_marked (cfg : DelayCfg) (topic : String) (ms : List Msg) (h : ∀ m ∈ ms, m.pubMark = true) :
    ∀ m ∈ (applyAll cfg topic ms).1, m.pubMark = true := by
  intro m hm
  have hb := List.mem_map_of_mem (f := (·.pubMark)) hm
  rw [applyAll_map _ (fun _ _ => rfl)] at hb
  obtain ⟨m', hm', e⟩ := List.mem_map.mp hb
  exact e ▸ h m' hm'

theorem applyAll_nil_iff (cfg : DelayCfg) (topic : String) (ms : List Msg) :
    (applyAll cfg topic ms).1 = [] ↔ ms = [] := by
  have h := applyAll_map (fun _ => ()) (fun _ _ => rfl) cfg topic ms
  rw [← List.map_eq_nil_iff, h, List.map_eq_nil_iff]

/-- the first message stays the first message -/
theorem applyAll_head (cfg : DelayCfg) (topic : String) (m0 : Msg) (tl : List Msg) :
    ∃ m0' tl', (applyAll cfg topic (m0 :: tl)).1 = m0' :: tl' ∧ m0'.pubMark = m0.pubMark ∧
      m0'.hName = m0.hName ∧ m0'.pName = m0.pName := by
  rcases applyDelay_cases cfg topic m0 with ⟨_, _, _, h, hm⟩ | ⟨_, _, _, h, _⟩
  · rw [applyAll_cons_ok tl h]; rcases hm with rfl | ⟨d, rfl⟩ <;> exact ⟨_, _, rfl, rfl, rfl, rfl⟩
  · rw [applyAll_cons_err tl h]; exact ⟨_, _, rfl, rfl, rfl, rfl⟩

theorem publish_delay (inner : String) (cfg : DelayCfg) (rest : List PubLayer) (topic : String) (ms : List Msg) (w : PWorld) :
    publish inner (.delay cfg :: rest) topic ms w =
      match (applyAll cfg topic ms).2.1 with
      | some e => (some e, (applyAll cfg topic ms).1, { w with gens := w.gens ++ (applyAll cfg topic ms).2.2 })
      | none => publish inner rest topic (applyAll cfg topic ms).1 { w with gens := w.gens ++ (applyAll cfg topic ms).2.2 } := by
  simp only [publish]
  split <;> rename_i h <;> rw [h]

end Wm.Decor
