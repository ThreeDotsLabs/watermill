/-
  The shape of the effect list of `handle`, stated once:
    `handle c o p = .handlerCalled :: (front o ++ (published c o p ++ settleTail (ending c o p)))`
  – what the chain itself does, the effects of `publishProducedMessages` (nothing, or the `Publish` call and its
  return), and the settlement.  Each part holds effects of its own constructors only, so where the handler call,
  the publish effects and the router's settlement sit in the list is read off the three parts; the theorems of
  `Props/C02.lean` never look at a single configuration.
-/
import WmModel.Handle
namespace Wm.Handle

variable {α : Type} {c : Cfg} {o : Outcome α} {p x : PubOutcome} {e : Effect α}

theorem getElem?_append_of_not_mem_left {β : Type} {a b : List β} {i : Nat} {x : β}
    (h : (a ++ b)[i]? = some x) (hx : x ∉ a) : ∃ j, i = a.length + j ∧ b[j]? = some x := by
  rcases Nat.lt_or_ge i a.length with hi | hi
  · rw [List.getElem?_append_left hi] at h
    exact absurd (List.mem_of_getElem? h) hx
  · rw [List.getElem?_append_right hi] at h
    exact ⟨i - a.length, by omega, h⟩

theorem getElem?_append_of_not_mem_right {β : Type} {a b : List β} {i : Nat} {x : β}
    (h : (a ++ b)[i]? = some x) (hx : x ∉ b) : i < a.length ∧ a[i]? = some x := by
  rcases Nat.lt_or_ge i a.length with hi | hi
  · rw [List.getElem?_append_left hi] at h
    exact ⟨hi, h⟩
  · rw [List.getElem?_append_right hi] at h
    exact absurd (List.mem_of_getElem? h) hx

theorem effPub_withPub (hk : c.kind = .withPub) (p : PubOutcome) : effPub c p = p := by
  simp [effPub, hk]

theorem effPub_disabled (hk : c.kind = .disabled) (p : PubOutcome) : effPub c p = .error := by
  simp [effPub, hk]

theorem pubTopic_withPub (hk : c.kind = .withPub) : pubTopic c = c.topic := by
  simp [pubTopic, hk]

theorem publishProduced_nil (c : Cfg) (p : PubOutcome) : publishProduced c ([] : List α) p = ([], .accept) := rfl

theorem publishProduced_nilPub (hk : c.kind = .nilPub) {outs : List α} (hne : outs ≠ []) (p : PubOutcome) :
    publishProduced c outs p = ([], .error) := by
  cases outs with
  | nil => exact absurd rfl hne
  | cons x xs => simp [publishProduced, hk]

theorem publishProduced_call (hk : c.kind ≠ .nilPub) {outs : List α} (hne : outs ≠ []) (p : PubOutcome) :
    publishProduced c outs p = ([.publishCall (pubTopic c) outs, .publishRet (effPub c p)], effPub c p) := by
  cases outs with
  | nil => exact absurd rfl hne
  | cons x xs => cases h : c.kind <;> simp [publishProduced, h] <;> exact absurd h hk

/-- how the part of `handleMessage` under the deferred `recover` ended: it reached `msg.Ack()` (`accept`), took one
    of the `msg.Nack(); return` branches (`error`), or panicked -/
def ending (c : Cfg) (o : Outcome α) (p : PubOutcome) : PubOutcome :=
  match o.result with
  | .panics _ => .panic
  | .returns _ true => .error
  | .returns outs false => (publishProduced c outs p).2

/-- what the chain does after it was called, up to `publishProducedMessages` -/
def front (o : Outcome α) : List (Effect α) :=
  selfEff o.selfSettle ++
    match o.result with
    | .returns outs false => [.addCtx outs]
    | _ => []

/-- the effects of `publishProducedMessages` -/
def published (c : Cfg) (o : Outcome α) (p : PubOutcome) : List (Effect α) :=
  match o.result with
  | .returns outs false => (publishProduced c outs p).1
  | _ => []

theorem handle_eq (c : Cfg) (o : Outcome α) (p : PubOutcome) :
    handle c o p = .handlerCalled :: (front o ++ (published c o p ++ settleTail (ending c o p))) := by
  rcases o with ⟨s, r⟩
  rcases r with ⟨outs, _ | _⟩ | v <;> simp [handle, front, published, ending, settleTail]

/-- when the chain returned messages without an error and the handler has a publisher, `Publish` is called with
    exactly those messages and its verdict is how the guarded part ends (`mem_published`: only then is it called) -/
theorem published_call {outs : List α} (hr : o.result = .returns outs false) (hne : outs ≠ []) (hk : c.kind ≠ .nilPub)
    (p : PubOutcome) :
    published c o p = [.publishCall (pubTopic c) outs, .publishRet (effPub c p)] ∧ ending c o p = effPub c p := by
  simp only [published, ending, hr, publishProduced_call hk hne, and_self]

theorem mem_published (h : e ∈ published c o p) :
    ∃ outs, o.result = .returns outs false ∧ outs ≠ [] ∧ c.kind ≠ .nilPub ∧
      (e = .publishCall (pubTopic c) outs ∨ e = .publishRet (effPub c p)) := by
  rcases o with ⟨s, ⟨_ | ⟨x, xs⟩, _ | _⟩ | v⟩ <;> try cases h
  by_cases hk : c.kind = .nilPub
  · simp [published, publishProduced_nilPub hk] at h
  · rw [(published_call rfl (by simp) hk p).1] at h
    exact ⟨_, rfl, by simp, hk, by simpa using h⟩

theorem mem_front (h : e ∈ front o) : e = .selfAck ∨ e = .selfNack ∨ ∃ outs, e = .addCtx outs := by
  rcases o with ⟨s, r⟩
  rcases List.mem_append.mp h with h | h
  · rcases s with _ | _ | _ <;> simp [selfEff] at h <;> simp [h]
  · rcases r with ⟨outs, _ | _⟩ | v <;> simp at h
    exact Or.inr (Or.inr ⟨outs, h⟩)

theorem mem_settleTail (h : e ∈ settleTail x) : e = .recovered ∨ e = .routerAck ∨ e = .routerNack ∨ e = .done := by
  cases x <;> simp only [settleTail, List.mem_cons, List.mem_nil_iff, or_false] at h
  · rcases h with rfl | rfl <;> simp
  · rcases h with rfl | rfl <;> simp
  · rcases h with rfl | rfl | rfl <;> simp

/-- when the guarded part ended well, `Publish` (if called) had returned `accept` -/
theorem publishRet_accept (hacc : ending c o p = .accept) {r : PubOutcome} (h : .publishRet r ∈ published c o p) :
    r = .accept := by
  obtain ⟨outs, hres, hne, hk, hcase⟩ := mem_published h
  rw [← hacc, (published_call hres hne hk p).2]
  simpa using hcase

theorem ending_panics (c : Cfg) (s : Option Settle) (v : PanicVal) (p : PubOutcome) :
    ending c (⟨s, .panics v⟩ : Outcome α) p = .panic := rfl

theorem ending_error (c : Cfg) (s : Option Settle) (outs : List α) (p : PubOutcome) :
    ending c ⟨s, .returns outs true⟩ p = .error := rfl

theorem ending_nil (c : Cfg) (s : Option Settle) (p : PubOutcome) :
    ending c (⟨s, .returns [] false⟩ : Outcome α) p = .accept := rfl

theorem ending_withPub (hk : c.kind = .withPub) (s : Option Settle) {outs : List α} (hne : outs ≠ [])
    (p : PubOutcome) : ending c ⟨s, .returns outs false⟩ p = p := by
  rw [(published_call rfl hne (by simp [hk]) p).2, effPub_withPub hk]

theorem ending_nopub (hk : c.kind ≠ .withPub) (s : Option Settle) {outs : List α} (hne : outs ≠ [])
    (p : PubOutcome) : ending c ⟨s, .returns outs false⟩ p = .error := by
  by_cases hn : c.kind = .nilPub
  · simp [ending, publishProduced_nilPub hn hne]
  · rw [(published_call rfl hne hn p).2]
    exact effPub_disabled (by cases h : c.kind <;> simp_all) p

def Effect.isHandlerCalled : Effect α → Bool
  | .handlerCalled => true
  | _ => false

/-- a `Publish` call or its return -/
def Effect.isPublish (e : Effect α) : Bool := e.isPublishCall || e.isPublishRet

theorem not_publish_of_mem_front (h : e ∈ front o) : e.isPublish = false := by
  rcases mem_front h with rfl | rfl | ⟨_, rfl⟩ <;> rfl

theorem not_publish_of_mem_settleTail (h : e ∈ settleTail x) : e.isPublish = false := by
  rcases mem_settleTail h with rfl | rfl | rfl | rfl <;> rfl

/-- a publish effect of `handleMessage` is one of its `published` part, which starts right after the chain's own
    effects -/
theorem publish_pos {i : Nat} (h : (handle c o p)[i]? = some e) (he : e.isPublish = true) :
    ∃ j, i = (front o).length + 1 + j ∧ j < (published c o p).length ∧ (published c o p)[j]? = some e := by
  rw [handle_eq, ← List.cons_append] at h
  obtain ⟨j, hi, hj⟩ := getElem?_append_of_not_mem_left h fun hm => by
    rcases List.mem_cons.mp hm with rfl | hm
    · cases he
    · rw [not_publish_of_mem_front hm] at he; cases he
  obtain ⟨hlt, hj⟩ := getElem?_append_of_not_mem_right hj fun hm => by
    rw [not_publish_of_mem_settleTail hm] at he; cases he
  exact ⟨j, by simpa using hi, hlt, hj⟩

theorem mem_published_of_isPublish (he : e ∈ handle c o p) (hp : e.isPublish = true) : e ∈ published c o p := by
  obtain ⟨i, hi⟩ := List.getElem?_of_mem he
  obtain ⟨j, _, _, hj⟩ := publish_pos hi hp
  exact List.mem_of_getElem? hj

theorem no_publish_of_published_nil (h0 : published c o p = []) : ∀ e ∈ handle c o p, e.isPublish = false := by
  intro e he
  cases h1 : e.isPublish
  · rfl
  · have := mem_published_of_isPublish he h1
    rw [h0] at this; cases this

/-- a predicate that only publish effects satisfy sees the `published` part of `handle` only -/
theorem filter_handle (c : Cfg) (o : Outcome α) (p : PubOutcome) (P : Effect α → Bool)
    (hP : ∀ e, P e = true → e.isPublish = true) :
    (handle c o p).filter P = (published c o p).filter P := by
  have hnot : ∀ e : Effect α, e.isPublish = false → ¬ P e = true := fun e h1 h2 => by
    rw [hP e h2] at h1; cases h1
  have hf : (front o).filter P = [] := List.filter_eq_nil_iff.mpr fun e h => hnot e (not_publish_of_mem_front h)
  have ht : (settleTail (ending c o p)).filter P = [] :=
    List.filter_eq_nil_iff.mpr fun e h => hnot e (not_publish_of_mem_settleTail h)
  have hc : P .handlerCalled = false := by simpa using hnot .handlerCalled rfl
  rw [handle_eq, List.filter_cons_of_neg (by simp [hc]), List.filter_append, List.filter_append, hf, ht]
  simp

theorem any_publishCall_handle (c : Cfg) (o : Outcome α) (p : PubOutcome) :
    (handle c o p).any Effect.isPublishCall = (published c o p).any Effect.isPublishCall := by
  have key : ∀ l : List (Effect α), l.any Effect.isPublishCall = (l.filter Effect.isPublishCall).any Effect.isPublishCall :=
    fun l => by simp [List.any_filter]
  rw [key, filter_handle c o p _ fun e h => by simp [Effect.isPublish, h], ← key]

/-! ### the router's settlement comes last -/

/-- the router's own settle effect after an `ending` -/
def decision : PubOutcome → Effect α
  | .accept => .routerAck
  | _ => .routerNack

/-- what the deferred `recover` adds in front of it -/
def recovery : PubOutcome → List (Effect α)
  | .panic => [.recovered]
  | _ => []

theorem settleTail_eq (x : PubOutcome) : (settleTail x : List (Effect α)) = recovery x ++ [decision x, .done] := by
  cases x <;> rfl

theorem decision_isSettle (x : PubOutcome) : (decision x : Effect α).isRouterSettle = true := by
  cases x <;> rfl

theorem decision_eq_ack : decision x = (.routerAck : Effect α) ↔ x = .accept := by
  cases x <;> simp [decision]

theorem decision_eq_nack : decision x = (.routerNack : Effect α) ↔ x ≠ .accept := by
  cases x <;> simp [decision]

/-- everything before the router's settle effect -/
def body (c : Cfg) (o : Outcome α) (p : PubOutcome) : List (Effect α) :=
  .handlerCalled :: (front o ++ (published c o p ++ recovery (ending c o p)))

theorem handle_eq_body (c : Cfg) (o : Outcome α) (p : PubOutcome) :
    handle c o p = body c o p ++ [decision (ending c o p), .done] := by
  simp [handle_eq, settleTail_eq, body]

theorem body_no_settle (c : Cfg) (o : Outcome α) (p : PubOutcome) : ∀ e ∈ body c o p, e.isRouterSettle = false := by
  intro e he
  simp only [body, List.mem_cons, List.mem_append] at he
  rcases he with rfl | h | h | h
  · rfl
  · rcases mem_front h with rfl | rfl | ⟨_, rfl⟩ <;> rfl
  · obtain ⟨_, _, _, _, rfl | rfl⟩ := mem_published h <;> rfl
  · have : e = .recovered := by revert h; cases ending c o p <;> simp [recovery]
    subst this; rfl

theorem handle_split (hx : e.isRouterSettle = true) {pre suf : List (Effect α)} (h : handle c o p = pre ++ e :: suf) :
    pre = body c o p ∧ e = decision (ending c o p) ∧ suf = [.done] := by
  rw [handle_eq_body] at h
  -- `e` sits at index `pre.length`; it is not in the body and it is not `done`: the two splits have equal lengths
  have hi : (body c o p ++ [decision (ending c o p), .done])[pre.length]? = some e := by rw [h]; simp
  obtain ⟨j, hj, hget⟩ := getElem?_append_of_not_mem_left hi fun hm => by
    rw [body_no_settle c o p e hm] at hx; cases hx
  rcases j with _ | _ | j <;> simp at hget
  · obtain ⟨rfl, hs⟩ := List.append_inj h hj.symm
    simpa [eq_comm] using hs
  · subst hget; cases hx

theorem mem_handle_settle (c : Cfg) (o : Outcome α) (p : PubOutcome) (x : Effect α)
    (hx : x.isRouterSettle = true) : x ∈ handle c o p ↔ decision (ending c o p) = x := by
  constructor
  · intro h
    obtain ⟨pre, suf, h⟩ := List.append_of_mem h
    exact (handle_split hx h).2.1.symm
  · intro h; subst h; simp [handle_eq_body]

/-! ### the settle calls the message sees (`settleOps`) -/

theorem settleOps_append (a b : List (Effect α)) : settleOps (a ++ b) = settleOps a ++ settleOps b :=
  List.filterMap_append

def selfOps : Option Settle → List Ack.Op
  | none => [] | some .ack => [.ack] | some .nack => [.nack]

theorem settleOps_selfEff (s : Option Settle) : settleOps (selfEff s : List (Effect α)) = selfOps s := by
  rcases s with _ | _ | _ <;> rfl

theorem settleOps_front (o : Outcome α) : settleOps (front o) = selfOps o.selfSettle := by
  rcases o with ⟨s, ⟨outs, _ | _⟩ | v⟩ <;> simp [front, settleOps_append, settleOps_selfEff] <;> rfl

/-- while `publishProducedMessages` runs nobody settles -/
theorem settleOps_published (c : Cfg) (o : Outcome α) (p : PubOutcome) (n : Nat) :
    settleOps ((published c o p).take n) = [] :=
  List.filterMap_eq_nil_iff.mpr fun e he => by
    obtain ⟨_, _, _, _, rfl | rfl⟩ := mem_published (List.mem_of_mem_take he) <;> rfl

theorem settleOps_settleTail (x : PubOutcome) :
    settleOps (settleTail x : List (Effect α)) = [if x = .accept then .ack else .nack] := by
  cases x <;> rfl

theorem settleOps_handle (c : Cfg) (o : Outcome α) (p : PubOutcome) :
    settleOps (handle c o p) = selfOps o.selfSettle ++ [if ending c o p = .accept then .ack else .nack] := by
  have hp := settleOps_published c o p (published c o p).length
  rw [List.take_length] at hp
  rw [handle_eq, ← List.singleton_append, settleOps_append, settleOps_append, settleOps_append, settleOps_front, hp,
    settleOps_settleTail]
  rfl

end Wm.Handle
