import WmModel.Lemmas.GcRegClose
namespace Wm.GcReg

variable {s s' : St} {a : Action} {i : Nat} {new : Th} {l : List Th} {closed logNil : Bool} {closedLock : Option Nat}

def DoneOn (l : List Th) (closed : Bool) (closedLock : Option Nat) (logNil : Bool) : Prop :=
  (closed = true → closedLock = none → logNil = true) ∧
  (∀ (i : Nat), l[i]? = some (Th.closer CPc.ret) → closedLock = none)

/-- once Close has completed: the lock is free for good and the backlog is dropped -/
def DoneOk (s : St) : Prop := DoneOn s.ths s.closed s.closedLock s.logNil

theorem done_init (cfg : Cfg) : DoneOk (init cfg) := by simp [DoneOk, DoneOn, init]

theorem done_set_other (h : DoneOn l closed closedLock logNil) (hn : isCloser new = false) :
    DoneOn (l.set i new) closed closedLock logNil := by
  refine ⟨h.1, fun j hj => ?_⟩
  rcases get_set_cases _ _ _ _ _ hj with ⟨_, hth⟩ | ⟨_, hj'⟩
  · subst hth; cases hn
  · exact h.2 j hj'

theorem done_append (h : DoneOn l closed closedLock logNil) (hn : new ≠ Th.closer CPc.ret) :
    DoneOn (l ++ [new]) closed closedLock logNil := by
  refine ⟨h.1, fun j hj => ?_⟩
  rcases get_append_cases _ _ _ _ hj with ⟨_, hj'⟩ | ⟨_, hth⟩
  · exact h.2 j hj'
  · exact absurd hth.symm hn

theorem done_step (hcl : CloseOk s) (h : DoneOk s) (hs : Step s a s') : DoneOk s' := by
  cases hs with
  | newPub | newPubNested | newSub | newClose => exact done_append h nofun
  | cancel | senderDone | panic => exact h
  | subTlock i t hth => exact done_append (done_set_other h rfl) nofun
  | thread hth hm =>
    cases hm with
    | closeAgain hfree => exact ⟨h.1, fun _ _ => hfree⟩
    | closeStart _ hncl =>
      -- no other Close call has returned yet, since none has closed the Pub/Sub
      refine ⟨nofun, fun j hj => ?_⟩
      rcases get_set_cases _ _ _ _ _ hj with ⟨_, hth'⟩ | ⟨_, hj'⟩
      · cases hth'
      · rw [hcl.1 j _ hj' nofun] at hncl; cases hncl
    | closeWait => exact ⟨fun _ _ => rfl, fun _ _ => rfl⟩
    | _ => exact done_set_other h rfl

end Wm.GcReg
