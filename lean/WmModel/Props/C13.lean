/-
  C13 – Poison queue: a failed message is either in the poison topic or still failing.
  Property theorems, with the few lemmas only they use.  Model: `WmModel/Poison.lean`; metadata lemmas: `WmModel/Lemmas/PoisonMeta.lean`.
  Every statement quantifies over all poison topics, all filters (arbitrary functions of the error), both
  publisher outcomes, all context values, all messages (any uuid/payload/metadata, including metadata that
  already holds poison keys), and all handler results (any metadata writes, any outputs, any error or none).
-/
import WmModel.Lemmas.PoisonMeta
namespace Wm.Poison

/-- the four metadata keys are four different keys (so none of the writes clobbers another) -/
theorem poisonKeys_distinct :
    reasonKey ≠ topicKey ∧ reasonKey ≠ handlerKey ∧ reasonKey ≠ subscriberKey ∧
    topicKey ≠ handlerKey ∧ topicKey ≠ subscriberKey ∧ handlerKey ≠ subscriberKey := by decide +kernel

/-- reading the stamped metadata: the four keys name reason/topic/handler/subscriber, all other keys are as before -/
theorem lookup_stamp (m : Meta) (reason : Str) (c : Ctx) (k : Str) :
    List.lookup k (stamp m reason c) =
      if k = subscriberKey then some c.subscriber
      else if k = handlerKey then some c.handler
      else if k = topicKey then some c.topic
      else if k = reasonKey then some reason
      else List.lookup k m := by
  simp only [stamp, lookup_mset]

theorem lookup_stamp_other (m : Meta) (reason : Str) (c : Ctx) (k : Str) (hk : k ∉ poisonKeys) :
    List.lookup k (stamp m reason c) = List.lookup k m := by
  simp only [poisonKeys, List.mem_cons, List.not_mem_nil, or_false, not_or] at hk
  rw [lookup_stamp, if_neg hk.2.2.2, if_neg hk.2.2.1, if_neg hk.2.1, if_neg hk.1]

section
variable (ptopic : Str) (filter : HErr → Bool) (pub : POut) (c : Ctx) (msg : Msg) (h : HRes)

/-- **poison_decision**: a publish happens iff the handler failed with an error the filter accepts; the
    middleware reports success iff the handler succeeded or the accepted error was salvaged (publish accepted);
    when the poison publish fails the returned error holds both causes. -/
theorem poison_decision :
    ((middleware ptopic filter pub c msg h).pubs ≠ [] ↔ ∃ e, h.err = some e ∧ filter e = true) ∧
    ((middleware ptopic filter pub c msg h).err = none ↔
        (h.err = none ∨ ∃ e, h.err = some e ∧ filter e = true ∧ pub = .ok)) ∧
    (∀ e t, h.err = some e → filter e = true → pub = .fail t →
        (middleware ptopic filter pub c msg h).err = some (.both e t) ∧
        (∀ p ∈ e.parts, p ∈ (RErr.both e t).causes) ∧ (wrapPrefix ++ t) ∈ (RErr.both e t).causes) := by
  refine and_assoc.mp ⟨?_, fun e t he hf hp => ?_⟩
  · unfold middleware
    cases he : h.err with
    | none => simp
    | some e =>
      cases hf : filter e
      · simp [hf]
      · cases pub <;> simp [hf]
  · subst hp
    refine ⟨by simp [middleware, he, hf], fun p hp => ?_, ?_⟩ <;> simp [RErr.causes, *]

/-- **poison_once_same_identity**: an accepted failure yields exactly one `Publish`, on the poison topic, of a
    message with the same uuid and payload whose metadata is the message's metadata (as the handler left it)
    with the four poison keys overwritten by reason (= `err.Error()`), topic, handler and subscriber from the
    message context; it is the consumed message object itself (`o.msg`). -/
theorem poison_once_same_identity (e : HErr) (he : h.err = some e) (hf : filter e = true) :
    ∃ m', (middleware ptopic filter pub c msg h).pubs = [(ptopic, m')] ∧
      m'.uuid = msg.uuid ∧ m'.payload = msg.payload ∧
      List.lookup reasonKey m'.md = some e.text ∧
      List.lookup topicKey m'.md = some c.topic ∧
      List.lookup handlerKey m'.md = some c.handler ∧
      List.lookup subscriberKey m'.md = some c.subscriber ∧
      (∀ k, k ∉ poisonKeys → List.lookup k m'.md = List.lookup k (msets msg.md h.sets)) ∧
      (middleware ptopic filter pub c msg h).msg = m' := by
  have hd := poisonKeys_distinct
  refine ⟨{ msg with md := stamp (msets msg.md h.sets) e.text c }, ?_, rfl, rfl, ?_, ?_, ?_, ?_,
    fun k hk => lookup_stamp_other _ _ _ k hk, ?_⟩
  · cases pub <;> simp [middleware, he, hf]
  · simp [lookup_stamp, hd.1, hd.2.1, hd.2.2.1]
  · simp [lookup_stamp, hd.2.2.2.1, hd.2.2.2.2.1]
  · simp [lookup_stamp, hd.2.2.2.2.2]
  · simp [lookup_stamp]
  · cases pub <;> simp [middleware, he, hf]

/-- **pass_through**: success and filtered-out errors publish nothing, return the handler's outputs and the
    handler's own error value, and leave the message as the handler left it. -/
theorem pass_through (hp : h.err = none ∨ ∃ e, h.err = some e ∧ filter e = false) :
    (middleware ptopic filter pub c msg h).pubs = [] ∧
    (middleware ptopic filter pub c msg h).outs = h.outs ∧
    (middleware ptopic filter pub c msg h).err = h.err.map RErr.same ∧
    (middleware ptopic filter pub c msg h).msg = { msg with md := msets msg.md h.sets } := by
  rcases hp with he | ⟨e, he, hf⟩
  · simp [middleware, he]
  · simp [middleware, he, hf]

/-- the handler's outputs are returned unchanged in every case in which the call returns (also when the message was
    poisoned); the only other case is a poison publisher that panics -/
theorem outs_unchanged :
    (middleware ptopic filter pub c msg h).outs = h.outs ∨
    ∃ t, pub = .panic t ∧ (middleware ptopic filter pub c msg h).err = some (.panicked t) := by
  unfold middleware
  cases h.err with
  | none => exact .inl rfl
  | some e =>
    dsimp only
    cases filter e with
    | false => exact .inl rfl
    | true =>
      cases pub with
      | panic t => exact .inr ⟨t, rfl, rfl⟩
      | _ => exact .inl rfl

/-- **acked_implies_handled_or_poisoned**: composed with the Router's settle rule, a message is acked only if its
    handler succeeded or the message (same uuid, same payload) was accepted by the poison publisher on the poison topic. -/
theorem acked_implies_handled_or_poisoned (okp : Bool)
    (hack : routerSettle (middleware ptopic filter pub c msg h) okp = .ack) :
    h.err = none ∨
    ∃ e m', h.err = some e ∧ filter e = true ∧ pub = .ok ∧
      (middleware ptopic filter pub c msg h).pubs = [(ptopic, m')] ∧ m'.uuid = msg.uuid ∧ m'.payload = msg.payload := by
  cases he : h.err with
  | none => exact Or.inl rfl
  | some e =>
    right
    cases hf : filter e with
    | false => simp [routerSettle, middleware, he, hf] at hack
    | true =>
      cases pub with
      | fail t => simp [routerSettle, middleware, he, hf] at hack
      | panic t => simp [routerSettle, middleware, he, hf] at hack
      | ok =>
        obtain ⟨m', h1, h2, h3, _⟩ := poison_once_same_identity ptopic filter .ok c msg h e he hf
        exact ⟨e, m', rfl, hf, rfl, h1, h2, h3⟩

/-- **if that publish fails the error is still returned and the message is Nacked** -/
theorem nacked_when_poison_publish_fails (okp : Bool) (e : HErr) (t : Str)
    (he : h.err = some e) (hf : filter e = true) :
    (middleware ptopic filter (.fail t) c msg h).err ≠ none ∧
    routerSettle (middleware ptopic filter (.fail t) c msg h) okp = .nack := by
  simp [routerSettle, middleware, he, hf]

/-- a poison publisher that PANICS is a publish that failed: the middleware does not report success (the panic
    leaves the call) and the Router, which recovers it, Nacks the message -/
theorem nacked_when_poison_publisher_panics (okp : Bool) (e : HErr) (t : Str)
    (he : h.err = some e) (hf : filter e = true) :
    (middleware ptopic filter (.panic t) c msg h).err = some (.panicked t) ∧
    routerSettle (middleware ptopic filter (.panic t) c msg h) okp = .nack ∧
    (middleware ptopic filter (.panic t) c msg h).pubs.length = 1 := by
  simp [routerSettle, middleware, he, hf]

/-- a filtered-out error is Nacked -/
theorem nacked_when_filtered_out (okp : Bool) (e : HErr) (he : h.err = some e) (hf : filter e = false) :
    routerSettle (middleware ptopic filter pub c msg h) okp = .nack := by
  simp [routerSettle, middleware, he, hf]

/-- a salvaged message is acked (when its outputs, if any, are accepted by the Router's publisher) -/
theorem acked_when_poisoned (okp : Bool) (e : HErr) (he : h.err = some e) (hf : filter e = true)
    (hout : h.outs = [] ∨ okp = true) :
    routerSettle (middleware ptopic filter .ok c msg h) okp = .ack := by
  rcases hout with ho | ho <;> simp [routerSettle, middleware, he, hf, ho]

/-- **only then**: in the Router's event order every poison publish precedes the settlement, which is the last event -/
theorem poison_before_settle (okp : Bool) :
    ∃ pre s, routerTrace (middleware ptopic filter pub c msg h) okp = pre ++ [.settle s] ∧
      ∀ ev ∈ pre, ∀ s', ev ≠ .settle s' := by
  refine ⟨_, _, rfl, ?_⟩
  intro ev hev s'
  rcases List.mem_append.mp hev with h1 | h1
  · rcases List.mem_map.mp h1 with ⟨p, _, rfl⟩; simp
  · split at h1
    · rcases List.mem_singleton.mp h1 with rfl; simp
    · simp at h1

end

/-- a message that comes back (after a Nack) with the poison keys of an earlier attempt gets them overwritten:
    as a map, stamping twice = stamping once with the later values -/
theorem stamp_overwrites (m : Meta) (r r' : Str) (c c' : Ctx) (k : Str) :
    List.lookup k (stamp (stamp m r c) r' c') = List.lookup k (stamp m r' c') := by
  rw [lookup_stamp, lookup_stamp m r' c']
  -- the two sides differ only below the four tests, where `k` is none of the four keys
  refine ite_congr rfl (fun _ => rfl) fun h1 => ite_congr rfl (fun _ => rfl) fun h2 =>
    ite_congr rfl (fun _ => rfl) fun h3 => ite_congr rfl (fun _ => rfl) fun h4 => ?_
  rw [lookup_stamp, if_neg h1, if_neg h2, if_neg h3, if_neg h4]

/-- the metadata stays a map (each key once) -/
theorem stamp_nodup (m : Meta) (r : Str) (c : Ctx) (hm : (keys m).Nodup) : (keys (stamp m r c)).Nodup := by
  unfold stamp
  exact mset_nodup _ _ _ (mset_nodup _ _ _ (mset_nodup _ _ _ (mset_nodup _ _ _ hm)))

/-! ### message streams: the middleware keeps no state, so the per-message theorems hold for every message of
    every stream, and the number of poison publishes of a stream is the number of accepted failures -/

def acceptedItem (filter : HErr → Bool) (it : Item) : Bool :=
  match it.res.err with
  | some e => filter e
  | none => false

theorem stream_eq_map (ptopic : Str) (filter : HErr → Bool) (items : List Item) :
    stream ptopic filter items = items.map (fun it => middleware ptopic filter it.pub it.ctx it.msg it.res) := by
  induction items with
  | nil => rfl
  | cons it rest ih => simp [stream, ih]

theorem pubs_length (ptopic : Str) (filter : HErr → Bool) (it : Item) :
    (middleware ptopic filter it.pub it.ctx it.msg it.res).pubs.length = if acceptedItem filter it then 1 else 0 := by
  unfold middleware acceptedItem
  cases it.res.err with
  | none => rfl
  | some e => cases hf : filter e <;> cases it.pub <;> simp [hf]

/-- **exactly once, for every stream**: over any stream of messages, with the poison publisher failing at any
    positions, the total number of poison publishes equals the number of messages that failed with an accepted error -/
theorem stream_publishes_once_each (ptopic : Str) (filter : HErr → Bool) (items : List Item) :
    ((stream ptopic filter items).map (fun o => o.pubs.length)).sum = (items.filter (acceptedItem filter)).length := by
  induction items with
  | nil => rfl
  | cons it rest ih =>
    simp only [stream, List.map_cons, List.sum_cons, ih, pubs_length, List.filter_cons]
    cases acceptedItem filter it <;> simp <;> omega

/-! ### stateful filters: one consultation per failed message, and its answer is the verdict -/

/-- **filter consulted exactly once**: a failed message uses up exactly one answer of the filter, a handled one none -/
theorem stateful_filter_consulted_once (ptopic : Str) (ans : List Bool) (pub : POut) (c : Ctx) (msg : Msg) (h : HRes) :
    (middlewareS ptopic ans pub c msg h).2 = ans.drop (consultations h) := by
  unfold middlewareS consultations
  cases h.err <;> simp

/-- the outcome is the outcome for the pure filter that gives the answer obtained -/
theorem stateful_eq_pure (ptopic : Str) (ans : List Bool) (pub : POut) (c : Ctx) (msg : Msg) (h : HRes) :
    (middlewareS ptopic ans pub c msg h).1 = middleware ptopic (fun _ => ans.headD false) pub c msg h := by
  unfold middlewareS
  cases he : h.err with
  | none => simp [middleware, he]
  | some e => rfl

/-- **acked ⇒ handled or in the poison topic**, also when the filter is stateful: an ack of a failed message means
    the one answer the filter gave was "yes" and the message (same uuid, payload) was accepted on the poison topic -/
theorem stateful_acked_implies_handled_or_poisoned (ptopic : Str) (ans : List Bool) (pub : POut) (c : Ctx) (msg : Msg)
    (h : HRes) (okp : Bool) (hack : routerSettle (middlewareS ptopic ans pub c msg h).1 okp = .ack) :
    h.err = none ∨
    (ans.headD false = true ∧ pub = .ok ∧
      ∃ m', (middlewareS ptopic ans pub c msg h).1.pubs = [(ptopic, m')] ∧ m'.uuid = msg.uuid ∧ m'.payload = msg.payload) := by
  rw [stateful_eq_pure] at hack ⊢
  rcases acked_implies_handled_or_poisoned ptopic _ pub c msg h okp hack with h1 | ⟨e, m', _, hf, hp, h4, h5, h6⟩
  · exact Or.inl h1
  · exact Or.inr ⟨hf, hp, m', h4, h5, h6⟩

/-- a failed message the filter said "yes" to is published exactly once; one it said "no" to is not published and
    its error is returned (it stays failing) -/
theorem stateful_verdict (ptopic : Str) (ans : List Bool) (pub : POut) (c : Ctx) (msg : Msg) (h : HRes) (e : HErr)
    (he : h.err = some e) :
    (ans.headD false = true → (middlewareS ptopic ans pub c msg h).1.pubs.length = 1) ∧
    (ans.headD false = false → (middlewareS ptopic ans pub c msg h).1.pubs = [] ∧
        (middlewareS ptopic ans pub c msg h).1.err = some (.same e)) := by
  rw [stateful_eq_pure]
  constructor
  · intro hy
    obtain ⟨m', h1, _⟩ := poison_once_same_identity ptopic (fun _ => ans.headD false) pub c msg h e he hy
    rw [h1]; rfl
  · intro hn
    have := pass_through ptopic (fun _ => ans.headD false) pub c msg h (Or.inr ⟨e, he, hn⟩)
    exact ⟨this.1, by rw [this.2.2.1, he]; rfl⟩

def failed (it : Item) : Bool := it.res.err.isSome

/-- **a budget is not wasted**: with a filter that says "yes" `k` times and then "no", a stream publishes
    min(k, number of failed messages) messages to the poison topic – every consultation decides one message -/
theorem budget_filter_stream (ptopic : Str) (k : Nat) (items : List Item) :
    ((streamS ptopic (List.replicate k true) items).map (fun o => o.pubs.length)).sum =
      min k (items.filter failed).length := by
  induction items generalizing k with
  | nil => simp [streamS]
  | cons it rest ih =>
    simp only [streamS, List.map_cons, List.sum_cons, List.filter_cons, failed]
    -- one answer is used up iff the message failed, and it is "yes" iff there was budget left
    rw [stateful_filter_consulted_once, stateful_eq_pure, pubs_length, List.drop_replicate, ih]
    rcases it with ⟨pub, ctx, msg, ⟨sets, outs, _ | e⟩⟩
    · simp [acceptedItem, consultations]
    · cases k <;> simp [acceptedItem, consultations, List.replicate_succ]; omega

/-! ### non-vacuity -/

private def m0 : Msg := ⟨ascii "u1", ascii "payload", [(reasonKey, ascii "old"), (ascii "k", ascii "v")]⟩
private def c0 : Ctx := ⟨ascii "in", ascii "h", ascii "sub"⟩
private def e0 : HErr := .plain (ascii "boom") false
private def h0 : HRes := ⟨[(ascii "k2", ascii "w")], [⟨ascii "o", [], []⟩], some e0⟩

example : (middleware (ascii "poison") (fun _ => true) .ok c0 m0 h0).pubs =
    [(ascii "poison", ⟨ascii "u1", ascii "payload",
      [(subscriberKey, ascii "sub"), (handlerKey, ascii "h"), (topicKey, ascii "in"), (reasonKey, ascii "boom"),
       (ascii "k2", ascii "w"), (ascii "k", ascii "v")]⟩)] := by decide +kernel
example : (middleware (ascii "poison") (fun _ => true) .ok c0 m0 h0).err = none := by decide +kernel
example : (middleware (ascii "poison") (fun _ => true) (.fail (ascii "down")) c0 m0 h0).err = some (.both e0 (ascii "down")) :=
  ((poison_decision _ _ _ c0 m0 h0).2.2 e0 _ rfl rfl rfl).1
example : (middleware (ascii "poison") (fun _ => false) .ok c0 m0 h0).err = some (.same e0) :=
  (pass_through _ _ _ c0 m0 h0 (.inr ⟨e0, rfl, rfl⟩)).2.2.1
example : routerSettle (middleware (ascii "poison") (fun _ => true) .ok c0 m0 h0) true = .ack := by decide +kernel
example : routerSettle (middleware (ascii "poison") (fun _ => true) (.fail []) c0 m0 h0) true = .nack := by decide +kernel
example : (streamS (ascii "p") [true, false] [⟨.ok, c0, m0, h0⟩, ⟨.ok, c0, m0, ⟨[], [], none⟩⟩, ⟨.ok, c0, m0, h0⟩, ⟨.ok, c0, m0, h0⟩]).map
    (fun o => (o.pubs.length, o.err.isSome)) = [(1, false), (0, false), (0, true), (0, true)] := by decide +kernel
example : h0.err = some e0 ∧ (fun _ : HErr => true) e0 = true := ⟨rfl, rfl⟩
example : ((stream (ascii "p") (fun _ => true) [⟨.ok, c0, m0, h0⟩, ⟨.fail [], c0, m0, ⟨[], [], none⟩⟩, ⟨.fail [], c0, m0, h0⟩]).map
    (fun o => o.pubs.length)) = [1, 0, 1] := by decide +kernel

end Wm.Poison
