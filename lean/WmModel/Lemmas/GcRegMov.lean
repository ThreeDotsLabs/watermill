import WmModel.Lemmas.GcRegQ
import WmModel.Lemmas.GcRegTl
import WmModel.Lemmas.GcRegRd
import WmModel.Lemmas.GcRegWg
import WmModel.Lemmas.GcRegClose
/-
  Who waits for whom.  A thread that cannot step waits for something another thread holds: `closedLock` (a Close call
  at `waitWg`, which waits for the threads that owe `Done()`), the writer mutex (the announced writer), the drained
  read lock (a reader), a topic mutex (its holder).  Following these edges always ends at a thread that can step – or
  at a blocking Publish waiting for acks, which is where the statements below take a hypothesis (`WaitG`).
-/
namespace Wm.GcReg

def enabled (s : St) (j : Nat) : Prop := (act s (.step j)).isSome = true
def Progress (s : St) : Prop := ∃ j, enabled s j

/-- what thread `i`, being `th`, needs in order to take its next step -/
def ready (s : St) (i : Nat) : Th → Prop
  | .pub _ _ .start _ | .sub _ _ .start | .closer .start => s.closedLock = none
  | .pub _ _ .rlock _ => s.ann = none
  | .pub t _ .tlock _ | .sub t _ .tlock | .td t _ .tlock => tlockFree s t = true
  | .pub _ _ (.wait d) _ => s.disp[d]?.getD [] = [] ∨ s.closingSig = true
  | .sub _ _ .announce | .td _ _ .announce => s.ann = none ∧ i ∈ s.wqueue
  | .sub _ _ .drain | .td _ _ .drain => s.readers = [] ∧ s.ann = some i
  | .td _ sid .idle => sid ∈ s.cancelled ∨ s.closingSig = true
  | .closer .waitWg => s.wg = 0
  | .pub _ _ .retOk _ | .pub _ _ .retErr _ | .sub _ _ .retOk | .sub _ _ .retErr | .td _ _ .done | .closer .ret => False
  | _ => True

theorem enabled_of_ready {s : St} {i : Nat} {th : Th} (hth : s.ths[i]? = some th) (h : ready s i th) : enabled s i := by
  cases th with
  | pub t r pc ao =>
    cases pc <;> simp only [ready] at h
    case start => simp only [enabled, act, hth, stepPub, h]; cases s.closed <;> rfl
    case rlock => simp only [enabled, act, hth, stepPub, h]; rfl
    case tlock => simp only [enabled, act, hth, stepPub, h]; rfl
    case persist => simp only [enabled, act, hth, stepPub]; cases s.cfg.persistent <;> cases s.logNil <;> rfl
    case send => cases r <;> simp only [enabled, act, hth, stepPub] <;> cases s.cfg.blocking <;> rfl
    case wait d => simp only [enabled, act, hth, stepPub]; rw [if_pos (by simpa using h)]; rfl
    case unlock => simp only [enabled, act, hth, stepPub]; rfl
  | sub t sid pc =>
    cases pc <;> simp only [ready] at h
    case start => simp only [enabled, act, hth, stepSub, h]; cases s.closed <;> rfl
    case wqueue => simp only [enabled, act, hth, stepSub]; rfl
    case announce => simp only [enabled, act, hth, stepSub]; rw [if_pos (by simpa using h)]; rfl
    case drain => simp only [enabled, act, hth, stepSub]; rw [if_pos (by simpa using h)]; rfl
    case tlock => simp only [enabled, act, hth, stepSub, h]; rfl
    case register => simp only [enabled, act, hth, stepSub]; rfl
  | td t sid pc =>
    cases pc <;> simp only [ready] at h
    case idle => simp only [enabled, act, hth, stepTd]; rw [if_pos (by simpa using h)]; rfl
    case subClosed => simp only [enabled, act, hth, stepTd]; rfl
    case announce => simp only [enabled, act, hth, stepTd]; rw [if_pos (by simpa using h)]; rfl
    case drain => simp only [enabled, act, hth, stepTd]; rw [if_pos (by simpa using h)]; rfl
    case tlock => simp only [enabled, act, hth, stepTd, h]; rfl
    case remove => simp only [enabled, act, hth, stepTd]; (repeat' split) <;> rfl
  | closer pc =>
    cases pc <;> simp only [ready] at h
    case start => simp only [enabled, act, hth, stepCloser, h]; cases s.closed <;> rfl
    case waitWg => simp only [enabled, act, hth, stepCloser, h]; rfl

/-- something can happen without a new call: a thread step, or a sender goroutine (a consumer's ack) finishing -/
def Movable (s : St) : Prop :=
  (∃ j, enabled s j) ∨ (∃ d sid, (act s (.senderDone d sid)).isSome = true)

/-- hypothesis under which the progress argument runs: a blocking Publish inside `waitForAckFromSubscribers` is not a dead end -/
def WaitOk (s : St) : Prop :=
  ∀ (i t : Nat) (r : List Nat) (d : Nat) (ao : Option (Nat × Nat)), s.ths[i]? = some (Th.pub t r (.wait d) ao) → Movable s

/-- the same hypothesis for an arbitrary goal `G` (the lemmas below derive `G` from "some thread can step" and from this) -/
def WaitG (s : St) (G : Prop) : Prop :=
  ∀ (i t : Nat) (r : List Nat) (d : Nat) (ao : Option (Nat × Nat)), s.ths[i]? = some (Th.pub t r (.wait d) ao) → G

/-- once the Pub/Sub is closing, `waitForAckFromSubscribers` gives up -/
theorem waitG_of_closing {G : Prop} {s : St} (inj : Progress s → G) (hc : s.closingSig = true) : WaitG s G :=
  fun i _ _ _ _ hth => inj ⟨i, enabled_of_ready hth (Or.inr hc)⟩

theorem waitOk_of_closing (s : St) (hc : s.closingSig = true) : WaitOk s := waitG_of_closing Or.inl hc

/-- without nested publishes every awaited sender can finish on its own -/
theorem waitOk_of_no_reserved (s : St) (hr : s.reserved = []) : WaitOk s := by
  intro i t r d ao hth
  cases hd : s.disp[d]?.getD [] with
  | nil => exact Or.inl ⟨i, enabled_of_ready hth (Or.inl hd)⟩
  | cons sid rest =>
    refine Or.inr ⟨d, sid, ?_⟩
    simp [act, hd, hr]

variable {G : Prop} {s : St} (inj : Progress s → G) (hw : WaitG s G)
include inj hw

/-- whoever holds a topic mutex can move, unless it is a blocking Publish waiting for acks -/
theorem mov_of_holder {t h : Nat} {th : Th} (hth : s.ths[h]? = some th) (hh : holdsT t th = true) : G := by
  cases th with
  | pub t' r pc ao =>
    cases pc with
    | wait d => exact hw h t' r d ao hth
    | persist | send | unlock => exact inj ⟨h, enabled_of_ready hth trivial⟩
    | _ => cases hh
  | sub t' sid pc =>
    cases pc with
    | register => exact inj ⟨h, enabled_of_ready hth trivial⟩
    | _ => cases hh
  | td t' sid pc =>
    cases pc with
    | remove => exact inj ⟨h, enabled_of_ready hth trivial⟩
    | _ => cases hh
  | closer pc => cases hh

/-- a thread that needs the mutex of topic `t` gets it, or the holder can move -/
theorem mov_tlock (htl : TlOk s) {i t : Nat} {th : Th} (hth : s.ths[i]? = some th)
    (hrdy : tlockFree s t = true → ready s i th) : G := by
  cases hf : tlockFree s t with
  | true => exact inj ⟨i, enabled_of_ready hth (hrdy hf)⟩
  | false =>
    simp only [tlockFree, Bool.not_eq_false', List.any_eq_true] at hf
    obtain ⟨⟨t', h⟩, hm, ht⟩ := hf
    cases (beq_iff_eq.mp ht)
    obtain ⟨th', hth', hh⟩ := (htl.1 t' h).mp hm
    exact mov_of_holder inj hw hth' hh

theorem mov_reader (hrd : RdOk s) (htl : TlOk s) {j : Nat} (hj : j ∈ s.readers) : G := by
  obtain ⟨th, hth, hr⟩ := (hrd.1 j).mp hj
  cases th with
  | pub t r pc ao =>
    cases pc with
    | tlock => exact mov_tlock inj hw htl hth id
    | persist | send | wait | unlock => exact mov_of_holder inj hw hth (t := t) (beq_self_eq_true t)
    | _ => cases hr
  | _ => cases hr

/-- the announced writer, or somebody it waits for, can move -/
theorem mov_writer (hq : QOk s) (hrd : RdOk s) (htl : TlOk s) {k : Nat} (hk : s.ann = some k) : G := by
  obtain ⟨th, hth, hww⟩ := hq.2 k hk
  have drain : (s.readers = [] ∧ s.ann = some k → ready s k th) → G := fun hrdy => by
    cases hr : s.readers with
    | nil => exact inj ⟨k, enabled_of_ready hth (hrdy ⟨hr, hk⟩)⟩
    | cons j rest => exact mov_reader inj hw hrd htl (j := j) (by rw [hr]; exact List.mem_cons_self)
  cases th with
  | sub t sid pc =>
    cases pc with
    | drain => exact drain id
    | tlock => exact mov_tlock inj hw htl hth id
    | register => exact inj ⟨k, enabled_of_ready hth trivial⟩
    | _ => cases hww
  | td t sid pc =>
    cases pc with
    | drain => exact drain id
    | tlock => exact mov_tlock inj hw htl hth id
    | remove => exact inj ⟨k, enabled_of_ready hth trivial⟩
    | _ => cases hww
  | _ => cases hww

/-- a thread queued for the writer mutex gets it, or the present writer (or somebody that one waits for) can move -/
theorem mov_ann (hq : QOk s) (hrd : RdOk s) (htl : TlOk s) {i : Nat} {th : Th}
    (hth : s.ths[i]? = some th) (ha : atAnn th = true) : G := by
  have hin := hq.1 i th hth ha
  cases hk : s.ann with
  | some k => exact mov_writer inj hw hq hrd htl hk
  | none =>
    cases th with
    | sub t sid pc =>
      cases pc with
      | announce => exact inj ⟨i, enabled_of_ready hth ⟨hk, hin⟩⟩
      | _ => cases ha
    | td t sid pc =>
      cases pc with
      | announce => exact inj ⟨i, enabled_of_ready hth ⟨hk, hin⟩⟩
      | _ => cases ha
    | _ => cases ha

omit inj hw

/-- while the Pub/Sub is closing, a thread that still owes `subscribersWg.Done()` (or somebody it waits for) can move -/
theorem needsDone_progress (hc : s.closingSig = true) (hq : QOk s) (hrd : RdOk s) (htl : TlOk s) (hw1 : W1 s)
    {i : Nat} {th : Th} (hth : s.ths[i]? = some th) (hn : needsDone th = true) : Progress s := by
  have hw : WaitG s (Progress s) := waitG_of_closing id hc
  cases th with
  | sub t sid pc =>
    cases pc with
    | wqueue => exact ⟨i, enabled_of_ready hth trivial⟩
    | announce => exact mov_ann id hw hq hrd htl hth rfl
    | drain | tlock => exact mov_writer id hw hq hrd htl (hw1 i _ hth rfl)
    | _ => cases hn
  | td t sid pc =>
    cases pc with
    | idle => exact ⟨i, enabled_of_ready hth (Or.inr hc)⟩
    | subClosed => exact ⟨i, enabled_of_ready hth trivial⟩
    | announce => exact mov_ann id hw hq hrd htl hth rfl
    | drain | tlock | remove => exact mov_writer id hw hq hrd htl (hw1 i _ hth rfl)
    | done => cases hn
  | _ => cases hn

/-- a Close call that has not returned is never stuck: it, or a thread it (transitively) waits for, can take a step -/
theorem closer_progress (hq : QOk s) (hrd : RdOk s) (htl : TlOk s) (hw1 : W1 s) (hcl : CloseOk s) (hwg : WgOk s)
    {i : Nat} {pc : CPc} (hth : s.ths[i]? = some (Th.closer pc)) (hpc : pc ≠ CPc.ret) : Progress s := by
  have atWait : ∀ (k : Nat), s.ths[k]? = some (Th.closer CPc.waitWg) → Progress s := by
    intro k hk
    have hc : s.closingSig = true := by rw [hcl.2.2.1]; exact hcl.1 k _ hk nofun
    by_cases h0 : s.wg = 0
    · exact ⟨k, enabled_of_ready hk h0⟩
    · obtain ⟨th, hm, hn⟩ := List.countP_pos_iff.mp (Nat.lt_of_lt_of_eq (Nat.pos_of_ne_zero h0) hwg)
      obtain ⟨j, hj⟩ := List.getElem?_of_mem hm
      exact needsDone_progress hc hq hrd htl hw1 hj hn
  cases pc with
  | ret => exact absurd rfl hpc
  | waitWg => exact atWait i hth
  | start =>
    cases hl : s.closedLock with
    | none => exact ⟨i, enabled_of_ready hth hl⟩
    | some k => exact atWait k (hcl.2.1 k hl).1

/-- a thread is finished, or parked until its own environment event (an unsubscribe goroutine whose subscription is
    neither cancelled nor being closed) -/
def resting (s : St) : Th → Bool
  | .pub _ _ .retOk _ | .pub _ _ .retErr _ => true
  | .sub _ _ .retOk | .sub _ _ .retErr => true
  | .td _ sid .idle => !(s.cancelled.contains sid || s.closingSig)
  | .td _ _ .done => true
  | .closer .ret => true
  | _ => false

include inj hw

/-- **no thread is ever stuck behind another one**: if some thread is not resting, something can move -/
theorem mov_of_unrested (hq : QOk s) (hrd : RdOk s) (htl : TlOk s) (hw1 : W1 s) (hcl : CloseOk s) (hwg : WgOk s)
    {i : Nat} {th : Th} (hth : s.ths[i]? = some th) (hr : resting s th = false) : G := by
  -- a thread at `start` passes `closedLock`, or the Close call that holds it (or somebody that one waits for) moves
  have start : (s.closedLock = none → ready s i th) → G := by
    intro hrdy
    cases hl : s.closedLock with
    | some k => exact inj (closer_progress hq hrd htl hw1 hcl hwg (hcl.2.1 k hl).1 nofun)
    | none => exact inj ⟨i, enabled_of_ready hth (hrdy hl)⟩
  cases th with
  | closer pc =>
    refine inj (closer_progress hq hrd htl hw1 hcl hwg hth ?_)
    intro hx; subst hx; cases hr
  | pub t r pc ao =>
    cases pc with
    | start => exact start id
    | rlock =>
      cases hk : s.ann with
      | some k => exact mov_writer inj hw hq hrd htl hk
      | none => exact inj ⟨i, enabled_of_ready hth hk⟩
    | tlock => exact mov_tlock inj hw htl hth id
    | wait d => exact hw i t r d ao hth
    | persist | send | unlock => exact mov_of_holder inj hw hth (t := t) (beq_self_eq_true t)
    | _ => cases hr
  | sub t sid pc =>
    cases pc with
    | start => exact start id
    | wqueue | register => exact inj ⟨i, enabled_of_ready hth trivial⟩
    | announce => exact mov_ann inj hw hq hrd htl hth rfl
    | drain | tlock => exact mov_writer inj hw hq hrd htl (hw1 i _ hth rfl)
    | _ => cases hr
  | td t sid pc =>
    cases pc with
    | idle =>
      refine inj ⟨i, enabled_of_ready hth ?_⟩
      simp only [resting, Bool.not_eq_false', Bool.or_eq_true, List.contains_eq_mem, decide_eq_true_eq] at hr
      exact hr
    | subClosed => exact inj ⟨i, enabled_of_ready hth trivial⟩
    | announce => exact mov_ann inj hw hq hrd htl hth rfl
    | drain | tlock | remove => exact mov_writer inj hw hq hrd htl (hw1 i _ hth rfl)
    | done => cases hr

end Wm.GcReg
