/-
  Run / Running() invariant of RouterLife and absence of panics.
-/
import WmModel.Lemmas.RouterLifeHandler
namespace Wm.RouterLife
open Wm.Lts

def RunPc.pastRh : RunPc → Bool
  | .closeRunning | .waitClosing | .waitClosed | .ret => true
  | _ => false

structure RunOk (s : St) : Prop where
  r1 : s.isRunning = true ↔ s.run ≠ .idle
  r2 : s.run.pastRh = true → ∀ h ∈ s.hs, h.preRun = true → h.started = true
  r3 : s.running = true → s.run = .waitClosing ∨ s.run = .waitClosed ∨ s.run = .ret
  r4 : s.panicked = false
  r5 : ∀ c, s.hl = .rh true c → s.run = .inRh

theorem run_init : RunOk init := by
  constructor <;> simp [init, RunPc.pastRh]

variable {fx : Fix} {s s' : St} {i : Nat} {g : Handler → Handler}

/-- `running` is not closed while Run is at `pc` -/
theorem RunOk.not_running {pc : RunPc} {P : Prop} (h : RunOk s) (hr : s.run = pc) (h1 : pc ≠ .waitClosing)
    (h2 : pc ≠ .waitClosed) (h3 : pc ≠ .ret) : s.running = true → P := fun hrun => by
  rcases h.r3 hrun with e | e | e <;> rw [hr] at e
  · exact absurd e h1
  · exact absurd e h2
  · exact absurd e h3

/-- Run's own RunHandlers call does not hold `handlersLock` while Run is at `pc` -/
theorem RunOk.not_rh {pc : RunPc} {P : Prop} (h : RunOk s) (hr : s.run = pc) (h1 : pc ≠ .inRh)
    (c : Option (Nat × Nat)) : s.hl = .rh true c → P := fun e => absurd (hr ▸ h.r5 c e) h1

/-- Run, at `pc`, moves on to `pc'`: `isRunning` is set and stays -/
theorem RunOk.is_running {pc pc' : RunPc} (h : RunOk s) (hr : s.run = pc) (h0 : pc ≠ .idle) (h1 : pc' ≠ .idle) :
    s.isRunning = true ↔ pc' ≠ .idle :=
  ⟨fun _ => h1, fun _ => h.r1.mpr (hr ▸ h0)⟩

theorem run_same (h : RunOk s) (e1 : s'.isRunning = s.isRunning := by rfl) (e2 : s'.run = s.run := by rfl)
    (e3 : s'.hs = s.hs := by rfl) (e4 : s'.running = s.running := by rfl) (e5 : s'.panicked = s.panicked := by rfl)
    (e6 : s'.hl = s.hl := by rfl) : RunOk s' :=
  ⟨by rw [e1, e2]; exact h.r1, by rw [e2, e3]; exact h.r2, by rw [e4, e2]; exact h.r3, by rw [e5]; exact h.r4,
    by rw [e6, e2]; exact h.r5⟩

/-- one handler changes, keeping `preRun` and not losing `started`; `handlersLock` does not pass to Run's RunHandlers -/
theorem run_updH (h : RunOk s) (e3 : s'.hs = s.hs.modify i g)
    (hg : ∀ y, s.hs[i]? = some y → (g y).preRun = y.preRun ∧ (y.started = true → (g y).started = true))
    (e1 : s'.isRunning = s.isRunning := by rfl) (e2 : s'.run = s.run := by rfl) (e4 : s'.running = s.running := by rfl)
    (e5 : s'.panicked = s.panicked := by rfl)
    (e6 : ∀ c, s'.hl = .rh true c → ∃ c', s.hl = .rh true c' := by exact fun c e => ⟨c, e⟩) : RunOk s' := by
  refine ⟨by rw [e1, e2]; exact h.r1, ?_, by rw [e4, e2]; exact h.r3, by rw [e5]; exact h.r4,
    by rw [e2]; intro c hc; obtain ⟨c', hc'⟩ := e6 c hc; exact h.r5 c' hc'⟩
  rw [e2, e3]; intro hp
  refine forall_mem_modify _ _ _ _ (h.r2 hp) fun y hy hok hpre => ?_
  rw [(hg y hy).1] at hpre
  exact (hg y hy).2 (hok hpre)

theorem run_step {a : Action} (hfx : fx.d7 = true) (hl : LifeOk fx s) (h : RunOk s) (hs : Step fx s a s') :
    RunOk s' := by
  cases hs with
  | addHandlerTok | addHandlerSel | addHandlerDrop =>
    -- a handler added once Run is past its RunHandlers call is not one "registered before Run"
    refine ⟨h.r1, fun hp y hy hpre => ?_, h.r3, h.r4, h.r5⟩
    rcases List.mem_append.mp hy with hy | hy
    · exact h.r2 hp y hy hpre
    · cases List.mem_singleton.mp hy
      have hrun : s.isRunning = true := h.r1.mpr fun e => by rw [e] at hp; cases hp
      rw [hrun] at hpre; cases hpre
  -- Run's program counter
  | runCall _ hr =>
    exact ⟨⟨fun _ => nofun, fun _ => rfl⟩, nofun, h.not_running hr nofun nofun nofun, h.r4, h.not_rh hr nofun⟩
  | runWatch hr =>
    exact ⟨h.is_running hr nofun nofun, nofun, h.not_running hr nofun nofun nofun, h.r4, h.not_rh hr nofun⟩
  | runRh hr => exact ⟨h.is_running hr nofun nofun, nofun, h.not_running hr nofun nofun nofun, h.r4, fun _ _ => rfl⟩
  | runRunning hr =>
    exact ⟨h.is_running hr nofun nofun, fun _ => h.r2 (by rw [hr]; rfl), fun _ => .inl rfl, h.r4, h.not_rh hr nofun⟩
  | runCancelStep hr =>
    exact ⟨h.is_running hr nofun nofun, fun _ => h.r2 (by rw [hr]; rfl), fun _ => .inr (.inl rfl), h.r4,
      h.not_rh hr nofun⟩
  | runRet hr =>
    exact ⟨h.is_running hr nofun nofun, fun _ => h.r2 (by rw [hr]; rfl), fun _ => .inr (.inr rfl), h.r4,
      h.not_rh hr nofun⟩
  -- `handlersLock`: to someone else than Run's RunHandlers; on within one RunHandlers call; released, and then Run's
  -- own call ends in `closeRunning` or `failed`
  | rhCall | closeHL | closeDone | closeTimeout => exact ⟨h.r1, h.r2, h.r3, h.r4, nofun⟩
  | rhSub hhl =>
    exact run_updH h rfl (fun _ _ => ⟨rfl, id⟩) (e6 := fun _ e => by cases e; exact ⟨_, hhl⟩)
  | rhStep0 hhl | rhStep1 hhl =>
    refine run_updH h rfl (fun _ _ => ?_) (e6 := fun _ e => by cases e; exact ⟨_, hhl⟩)
    -- `markStop` keeps `started`, `markStarted` sets it
    cases fx.d7 <;> first | exact ⟨rfl, id⟩ | exact ⟨rfl, fun _ => rfl⟩
  | rhSpawn hhl =>
    exact run_updH h rfl (fun _ _ => ⟨rfl, id⟩) (e6 := fun _ e => by cases e; exact ⟨_, hhl⟩)
  | @rhSubFail _ v _ hhl =>
    cases v with
    | false => exact ⟨h.r1, h.r2, h.r3, h.r4, nofun⟩
    | true =>
      have hr := h.r5 _ hhl
      exact ⟨h.is_running hr nofun nofun, nofun, h.not_running hr nofun nofun nofun, h.r4, nofun⟩
  | @rhEnd v hhl hall =>
    cases v with
    | false => exact ⟨h.r1, h.r2, h.r3, h.r4, nofun⟩
    | true =>
      have hr := h.r5 _ hhl
      exact ⟨h.is_running hr nofun nofun, fun _ y hy _ => hl.all_started hall y hy,
        h.not_running hr nofun nofun nofun, h.r4, nofun⟩
  | stopPanic hx hch hg => exact absurd ((hl.all _ (List.mem_of_getElem? hx)).stoppable hfx hch) hg
  | emit | pumpOut | pumpDrop | pumpEnd | innerCtx | dispatch | loopEnd | pubClose | wgDone | loopDelete | hcClose
  | hcCtxClose | hcCtxStop | hcInnerRet | hcCloseFail | hcPumpWaited | hcStop | stop =>
    exact run_updH h rfl fun _ _ => ⟨rfl, id⟩
  | _ => exact run_same h

theorem reach_run (fx : Fix) (hfx : fx.d7 = true) : ∀ s, Reach (sys fx) s → RunOk s :=
  inv_of_step' (sys fx) RunOk run_init fun s _ _ hr h ha => run_step hfx (reach_life fx s hr) h (step_of_act ha)

end Wm.RouterLife
