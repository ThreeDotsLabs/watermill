/-
  C07 – GoChannel Close and subscription cancel always terminate safely: the per-subscription clauses as theorems
  over every reachable state of M_sub (an unread channel, an unsettled message, a Nack in progress, any number of
  queued senders, cancel and Pub/Sub close at any point, every interleaving).
  `never_panics`, `close_flags_consistent`, `holder_can_leave_when_closing` are in Props/C05.lean (same model).
  Data-race freedom and "no goroutine remains" are runtime facts: race detector + goroutine census in the harness.
-/
import WmModel.Props.C05
namespace Wm.GcSub
open Wm.Lts

/-- the steps of the close protocol that need no consumer and no publisher -/
def closeStep (a : Action) : Bool :=
  a == .tdStart || a == .tdLock || a == .tdClose || a == .sCheck || a == .sTop || a == .sSendClosing || a == .sObsClosing

/-- **cancel / Close never gets stuck**: once the context is cancelled or the Pub/Sub is closing, as long as the
    subscription's teardown has not finished, one of its own steps is enabled – whatever the consumer does or does
    not do (unread channel, unsettled message), whatever senders are queued -/
theorem close_progress (cap : Nat) (s : St) (h : Reach (sys cap) s) (hsig : s.ctxDone = true ∨ s.gClosing = true)
    (hnd : s.td ≠ .done) : ∃ a, closeStep a = true ∧ (act s a).isSome = true := by
  obtain ⟨_, h2, h3, h4, h5, _⟩ := reach_ctl cap s h
  have hcd : s.closed = false := Bool.eq_false_iff.mpr fun hx => hnd (h3.mp hx)
  cases htd : s.td with
  | done => exact absurd htd hnd
  | waiting =>
    have hcl : s.closing = false := Bool.eq_false_iff.mpr fun hx => h2.mp hx htd
    refine ⟨.tdStart, rfl, ?_⟩
    rcases hsig with hs | hs <;> simp [act, htd, hs, hcl, hcd]
  | wantLock =>
    cases hh : s.holder with
    | free => exact ⟨.tdLock, rfl, by simp [act, htd, hh]⟩
    | closer => rw [h5.mp hh] at htd; cases htd
    | sender p pc c =>
      -- the teardown has signalled `closing`: the sender that holds the lock can leave
      obtain ⟨a, ha, hen⟩ := holder_can_leave_when_closing cap s h (h2.mpr (by rw [htd]; nofun)) p c pc hh
      refine ⟨a, ?_, hen⟩
      rcases ha with ha | ha | ha | ha <;> subst ha <;> rfl
  | locked => exact ⟨.tdClose, rfl, by simp [act, htd, h4, hcd]⟩

/-- once the teardown has finished, `td` stays `done` -/
theorem done_stays {s s' : St} {a : Action} (h : Step s a s') (hd : s.td = .done) : s'.td = .done := by
  cases h with
  | tdStartDone _ _ _ => rfl
  | tdStart htd _ _ _ | tdLock htd _ | tdClose htd _ => exact absurd (hd.symm.trans htd) nofun
  | _ => exact hd

/-- **the output channel is closed exactly once**: in every run the closing step happens at most once
    (a second one would be a panic, which `never_panics` excludes; this bounds the step itself) -/
theorem outchan_closed_at_most_once (cap : Nat) (run : List Action) (s' : St)
    (h : exec (sys cap) (init cap) run = some s') : (run.filter (· == .tdClose)).length ≤ 1 := by
  have := steps_bounded_reach (sys cap) (fun s => if s.td = .done then 0 else 1) (· == .tdClose)
    (by
      intro s a s' hr ha hp
      cases eq_of_beq hp
      have ha' : act s .tdClose = some s' := ha
      cases step_of_act ha' with
      | tdClose htd _ => rw [htd]; exact Nat.zero_lt_one
      -- the other branch of `tdClose` would leave a reachable state that has panicked
      | tdClosePanic _ _ => cases never_panics cap _ (.step hr ha)
      | leave _ hl => cases hl)
    (by
      intro s a s' _ ha _
      by_cases hd : s.td = .done
      · rw [if_pos hd, if_pos (done_stays (step_of_act (s := s) ha) hd)]; exact Nat.le_refl _
      · rw [if_neg hd]; split <;> decide)
    run (init cap) s' Reach.init h
  exact Nat.le_trans (Nat.le_add_right _ _) this

/-- after the teardown finished the channel is closed and stays closed; nothing is sent on it any more -/
theorem closed_is_final (cap : Nat) (s : St) (h : Reach (sys cap) s) (hd : s.td = .done) :
    s.chanClosed = true ∧ act s .sSend = none := by
  obtain ⟨_, _, h3, h4, _, h6⟩ := reach_ctl cap s h
  refine ⟨h4.trans (h3.mpr hd), Option.eq_none_iff_forall_ne_some.mpr fun s' hs' => ?_⟩
  -- a sender at the first select is past the check
  obtain ⟨p, c, hsel⟩ := sSend_holder hs'
  have hp := h6 hd
  rw [hsel] at hp; cases hp

/-! non-vacuity: cancel while a message is unsettled and another sender is queued; the teardown completes without the consumer -/
example : ∃ s, exec (sys 1) (init 1) [.spawn, .spawn, .sLock 0, .sCheck, .sTop, .sSend, .recv, .cancel, .tdStart,
    .sObsClosing, .sLock 0, .sCheck, .tdLock, .tdClose] = some s ∧ s.td = .done ∧ s.chanClosed = true ∧
    Unsettled s 0 ∧ s.exits = [(0, .closing), (1, .closing)] :=
  ⟨_, rfl, by decide, by decide, ⟨⟨0, true, true, .none⟩, by decide, rfl, rfl⟩, by decide⟩

end Wm.GcSub
