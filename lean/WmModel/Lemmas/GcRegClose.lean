import WmModel.Lemmas.GcRegInv
namespace Wm.GcReg

variable {s s' : St} {a : Action} {i : Nat} {old new : Th} {l : List Th} {closed closingSig logNil : Bool}
  {closedLock : Option Nat}

def CloseOn (l : List Th) (closed : Bool) (closedLock : Option Nat) (closingSig logNil : Bool) : Prop :=
  (∀ (i : Nat) (pc : CPc), l[i]? = some (Th.closer pc) → pc ≠ CPc.start → closed = true) ∧
  (∀ (i : Nat), closedLock = some i → l[i]? = some (Th.closer CPc.waitWg) ∧ closed = true) ∧
  (closingSig = closed) ∧
  (logNil = true → closed = true)

/-- the Close protocol of the registry: `closed` once set stays set, a Close call that returned has closed the
    Pub/Sub, `closedLock` is held exactly by the Close call that waits for the subscribers, the backlog is dropped
    only after closing -/
def CloseOk (s : St) : Prop := CloseOn s.ths s.closed s.closedLock s.closingSig s.logNil

theorem close_init (cfg : Cfg) : CloseOk (init cfg) := by simp [CloseOk, CloseOn, init]

theorem close_set_other (h : CloseOn l closed closedLock closingSig logNil) (hold : l[i]? = some old)
    (ho : isCloser old = false) (hn : isCloser new = false) : CloseOn (l.set i new) closed closedLock closingSig logNil := by
  obtain ⟨c1, c2, c3, c4⟩ := h
  refine ⟨?_, ?_, c3, c4⟩
  · intro j pc hj hpc
    rcases get_set_cases _ _ _ _ _ hj with ⟨_, hth⟩ | ⟨_, hj'⟩
    · subst hth; cases hn
    · exact c1 j pc hj' hpc
  · intro j hj
    obtain ⟨a1, a2⟩ := c2 j hj
    refine ⟨set_get_of_ne _ _ _ _ _ ?_ a1, a2⟩
    intro hji; subst hji; rw [hold] at a1; injection a1 with a1; subst a1; cases ho

theorem close_append (h : CloseOn l closed closedLock closingSig logNil)
    (hn : ∀ pc, new = Th.closer pc → pc = CPc.start) : CloseOn (l ++ [new]) closed closedLock closingSig logNil := by
  obtain ⟨c1, c2, c3, c4⟩ := h
  refine ⟨?_, ?_, c3, c4⟩
  · intro j pc hj hpc
    rcases get_append_cases _ _ _ _ hj with ⟨_, hj'⟩ | ⟨_, hth⟩
    · exact c1 j pc hj' hpc
    · exact absurd (hn pc hth.symm) hpc
  · intro j hj
    obtain ⟨a1, a2⟩ := c2 j hj
    exact ⟨append_get_of_get _ _ _ _ a1, a2⟩

theorem close_step (h : CloseOk s) (hs : Step s a s') : CloseOk s' := by
  have ⟨c1, c2, c3, c4⟩ := h
  cases hs with
  | newPub | newPubNested | newSub => exact close_append h nofun
  | newClose => exact close_append h (fun _ hx => (Th.closer.inj hx).symm)
  | cancel | senderDone | panic => exact h
  | subTlock i t hth => exact close_append (close_set_other h hth rfl rfl) nofun
  | thread hth hm =>
    cases hm with
    | closeAgain hfree hcl =>
      exact ⟨fun _ _ _ _ => hcl, fun j hj => absurd (hj.symm.trans hfree) (Option.some_ne_none j), c3, c4⟩
    | closeStart =>
      refine ⟨fun _ _ _ _ => rfl, fun j hj => ?_, rfl, fun _ => rfl⟩
      cases hj
      exact ⟨List.getElem?_set_self (List.getElem?_eq_some_iff.mp hth).1, rfl⟩
    | closeWait =>
      have hcl : s.closed = true := c1 _ .waitWg hth nofun
      exact ⟨fun _ _ _ _ => hcl, nofun, c3, fun _ => hcl⟩
    | _ => exact close_set_other h hth rfl rfl

end Wm.GcReg
