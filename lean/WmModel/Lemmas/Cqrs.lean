/-
  Lemma base of C15: the spec-level notions its theorems are stated with, and what the model's functions compute by the
  form of their input – `send` in its two ways of ending, `single` by name / decode result, `groupLoop` and
  `cutAtFirstStop` through their own induction principles.  Property theorems: `Props/C15.lean`.
-/
import WmModel.Cqrs
namespace Wm.Cqrs

variable {V : Type}

/-- what a configured callback does to the metadata when it succeeds (`none` = not configured: nothing) -/
def applyCb : Option Callback → Meta → Meta
  | some (some f) => f
  | _ => id

/-- a callback leaves the type name alone -/
def KeepsName (cb : Option Callback) : Prop := ∀ md, nameFromMeta (applyCb cb md) = nameFromMeta md

theorem lookup_filter_ne {k x : String} (hk : k ≠ x) (md : Meta) :
    (md.filter (fun p => p.1 != k)).lookup x = md.lookup x := by
  induction md with
  | nil => rfl
  | cons p r ih =>
    obtain ⟨k', w⟩ := p
    by_cases h1 : k' = k
    · subst h1
      have h3 : (x == k') = false := by simp [Ne.symm hk]
      simp [List.lookup_cons, h3, ih]
    · simp [h1, List.lookup_cons, ih]

theorem metaGet_metaSet_ne {k x : String} (h : k ≠ x) (md : Meta) (v : String) :
    metaGet (metaSet md k v) x = metaGet md x := by
  rw [metaGet, metaSet, List.lookup_cons, beq_false_of_ne (Ne.symm h), lookup_filter_ne h]
  rfl

/-- a callback that sets some other metadata key leaves the type name alone -/
theorem keepsName_set (k v : String) (hk : k ≠ nameKey) : KeepsName (some (some (fun md => metaSet md k v))) :=
  fun md => metaGet_metaSet_ne hk md v

theorem keepsName_none : KeepsName none := fun _ => rfl

theorem nameFromMeta_singleton (n : String) : nameFromMeta [(nameKey, n)] = n := by
  simp [nameFromMeta, metaGet, List.lookup]

/-- The two ways a send can go.  It stops at the first step that fails, having published nothing, with that step's
    error; or it gets through to the publisher: the publish is the last effect and the only one, the hook (when
    configured) saw the marshalled message before, and the result is the publisher's. -/
theorem send_spec (cfg : BusCfg V) (v : V) :
    ((cfg.encode v = none ∨ cfg.topicOf (cfg.nameOf v) v = none ∨ cfg.hook = some none ∨ cfg.modify = some none) ∧
      (send cfg v).1.filter isPublish = [] ∧ ∃ err, (send cfg v).2 = some err ∧ err ≠ .publish) ∨
    (∃ b t pre, cfg.encode v = some b ∧ cfg.topicOf (cfg.nameOf v) v = some t ∧
      cfg.hook ≠ some none ∧ cfg.modify ≠ some none ∧
      send cfg v = (pre ++ [.publish t (applyCb cfg.modify (applyCb cfg.hook [(nameKey, cfg.nameOf v)])) b],
                    if cfg.pubOk then none else some .publish) ∧
      pre.filter isPublish = [] ∧
      (cfg.hook.isSome → .hook (cfg.nameOf v) [(nameKey, cfg.nameOf v)] b ∈ pre)) := by
  rcases cfg with ⟨enc, nm, top, hook, mod, ok⟩
  unfold send marshal
  dsimp only
  cases he : enc v with
  | none => exact .inl ⟨.inl rfl, rfl, _, rfl, nofun⟩
  | some b =>
  cases ht : top (nm v) v with
  | none => exact .inl ⟨.inr (.inl rfl), rfl, _, rfl, nofun⟩
  | some t =>
  -- what is left of `send` is its two `match`es on the callbacks, which compute once these are given
  rcases hook with _ | _ | f
  · rcases mod with _ | _ | g
    · exact .inr ⟨b, t, _, rfl, rfl, nofun, nofun, rfl, rfl, nofun⟩
    · exact .inl ⟨.inr (.inr (.inr rfl)), rfl, _, rfl, nofun⟩
    · exact .inr ⟨b, t, _, rfl, rfl, nofun, nofun, rfl, rfl, nofun⟩
  · exact .inl ⟨.inr (.inr (.inl rfl)), rfl, _, rfl, nofun⟩
  · rcases mod with _ | _ | g
    · exact .inr ⟨b, t, _, rfl, rfl, nofun, nofun, rfl, rfl, fun _ => .tail _ (.head _)⟩
    · exact .inl ⟨.inr (.inr (.inr rfl)), rfl, _, rfl, nofun⟩
    · exact .inr ⟨b, t, _, rfl, rfl, nofun, nofun, rfl, rfl, fun _ => .tail _ (.head _)⟩

/-- `l ++ [p]` with no `q`-element in `l` splits at a `q`-element in one way: at `p` -/
theorem split_at_only {α : Type} (q : α → Bool) {l pre post : List α} {p e : α} (hl : l.filter q = [])
    (h : l ++ [p] = pre ++ e :: post) (he : q e = true) : pre = l ∧ e = p ∧ post = [] := by
  rcases List.eq_nil_or_concat post with rfl | ⟨post', x, rfl⟩
  · obtain ⟨h1, h2⟩ := List.append_inj' h rfl
    exact ⟨h1.symm, (List.singleton_inj.mp h2).symm, rfl⟩
  · rw [List.concat_eq_append, ← List.cons_append, ← List.append_assoc] at h
    have hmem : e ∈ l := by rw [(List.append_inj' h rfl).1]; exact List.mem_append_right _ (.head _)
    exact absurd he (List.filter_eq_nil_iff.mp hl e hmem)

theorem original_after_wrap (ctx : Ctx) (id : Nat) : originalFromCtx (ctxWithOriginal ctx id) = some id := rfl

section
variable (c : Codec V) (k : Kind) (fl : Flags) (i : Nat) {h : Handler} {m : Msg}

theorem single_other (hn : m.name ≠ h.tyName) : single c k fl i h m = ([], onOtherName k fl) := if_pos hn

theorem single_undecodable (hn : m.name = h.tyName) (hd : c.decode h.ty m.payload = none) :
    single c k fl i h m = ([], .retErr) := by
  rw [single, if_neg (not_not_intro hn), hd]

theorem single_decoded {v : V} (hn : m.name = h.tyName) (hd : c.decode h.ty m.payload = some v) :
    single c k fl i h m = ([⟨i, v, some m.id⟩], afterHandle k fl (m.out i)) := by
  rw [single, if_neg (not_not_intro hn), hd]
  rfl

theorem settleOf_eq_ack (r : HRes) : settleOf r = .ack ↔ r = .retNil := by cases r <;> simp [settleOf]

theorem settleOf_onOtherName : settleOf (onOtherName k fl) = .ack ↔ (k = .command ∨ fl.ackUnknown = true) := by
  cases k <;> cases hu : fl.ackUnknown <;> simp [onOtherName, settleOf, hu]

theorem settleOf_afterHandle_err : settleOf (afterHandle k fl .err) = .ack ↔ (k = .command ∧ fl.ackCmdErr = true) := by
  by_cases h : k = .command ∧ fl.ackCmdErr = true <;> simp [afterHandle, settleOf, h]

/-- the closure reads its flags through `onOtherName` and `afterHandle` only -/
theorem single_congr_flags {fl' : Flags} (h : Handler) (m : Msg) (h1 : onOtherName k fl = onOtherName k fl')
    (h2 : afterHandle k fl = afterHandle k fl') : single c k fl i h m = single c k fl' i h m := by
  simp only [single, h1, h2]

end

theorem indexed_getElem? (reg : List Handler) (i : Nat) :
    (indexed reg)[i]? = (reg[i]?).map (fun h => (i, h)) := by
  unfold indexed
  rw [List.getElem?_map, List.getElem?_zipIdx]
  cases reg[i]? <;> simp

theorem mem_indexed_iff (reg : List Handler) (i : Nat) (h : Handler) : (i, h) ∈ indexed reg ↔ reg[i]? = some h := by
  simp [List.mem_iff_getElem?, indexed_getElem?]

theorem indexed_sorted (reg : List Handler) : (indexed reg).Pairwise (fun a b => a.1 < b.1) := by
  rw [indexed, List.pairwise_map]
  have := List.pairwise_lt_range' (s := 0) (n := reg.length)
  rw [← List.zipIdx_map_snd 0 reg, List.pairwise_map] at this
  exact this

theorem processMsg_of_ne_group (c : Codec V) {k : Kind} (fl : Flags) (reg : List Handler) (m : Msg) (hk : k ≠ .group) :
    processMsg c k fl reg m = (indexed reg).map (fun p => deliver (single c k fl p.1 p.2 m)) := by
  cases k
  · rfl
  · rfl
  · exact absurd rfl hk

/-- positions of the handlers called, in call order -/
def invokedIdx (r : List (Invocation V) × HRes) : List Nat := r.1.map (·.h)

/-- the handlers (with positions) whose type name is the message's name, in registration order -/
def matching (m : Msg) (hs : List (Nat × Handler)) : List (Nat × Handler) :=
  hs.filter (fun p => decide (m.name = p.2.tyName))

def matchingIdx (reg : List Handler) (m : Msg) : List Nat := (matching m (indexed reg)).map (·.1)

/-- every handler in `l` can decode the payload and succeeds -/
def AllHandle (c : Codec V) (m : Msg) (l : List (Nat × Handler)) : Prop :=
  ∀ p ∈ l, (c.decode p.2.ty m.payload).isSome ∧ m.out p.1 = .ok

/-- specification of "in order, stopping at the first error": walk a list of handlers; stop *before* one the payload
    does not decode for, stop *after* one that fails -/
def cutAtFirstStop (c : Codec V) (m : Msg) : List (Nat × Handler) → List Nat
  | [] => []
  | (i, h) :: rest =>
    match c.decode h.ty m.payload with
    | none => []
    | some _ => if m.out i = .ok then i :: cutAtFirstStop c m rest else [i]

theorem matching_sorted (m : Msg) (reg : List Handler) :
    (matching m (indexed reg)).Pairwise (fun a b => a.1 < b.1) :=
  List.Pairwise.sublist List.filter_sublist (indexed_sorted reg)

theorem mem_matching_iff (m : Msg) (reg : List Handler) (i : Nat) (h : Handler) :
    (i, h) ∈ matching m (indexed reg) ↔ (reg[i]? = some h ∧ m.name = h.tyName) := by
  unfold matching
  rw [List.mem_filter, mem_indexed_iff]
  simp

section
variable (m : Msg) {i : Nat} {h : Handler} (rest : List (Nat × Handler))

theorem matching_cons_ne (hn : m.name ≠ h.tyName) : matching m ((i, h) :: rest) = matching m rest :=
  List.filter_cons_of_neg (by simpa using hn)

/-- (the hypothesis in the form the loop's `if` leaves it) -/
theorem matching_cons_eq (hn : ¬m.name ≠ h.tyName) : matching m ((i, h) :: rest) = (i, h) :: matching m rest :=
  List.filter_cons_of_pos (by simpa using hn)

end

theorem allHandle_cons (c : Codec V) (m : Msg) (p : Nat × Handler) (l : List (Nat × Handler)) :
    AllHandle c m (p :: l) ↔ ((c.decode p.2.ty m.payload).isSome ∧ m.out p.1 = .ok) ∧ AllHandle c m l :=
  List.forall_mem_cons

/-! ### the group loop computes the cut of the matching handlers

  Each fact by `groupLoop`'s own induction principle.  Its cases: the end of the registry (1–3, by `any` and
  AckOnUnknownEvent), a handler of another name (4), a matching one the payload does not decode for (5), one that is
  called and succeeds (6), fails (7), panics (8). -/

section
variable (c : Codec V) (fl fl' : Flags) (m : Msg) (hs : List (Nat × Handler)) (ctx : Ctx) (any : Bool)

theorem groupLoop_invoked : invokedIdx (groupLoop c fl m hs ctx any) = cutAtFirstStop c m (matching m hs) := by
  fun_induction groupLoop c fl m hs ctx any with
  | case1 | case2 | case3 => rfl
  | case4 i h rest ctx any hn ih => rw [matching_cons_ne m rest hn]; exact ih
  | case5 i h rest ctx any hn hd => rw [matching_cons_eq m rest hn, cutAtFirstStop, hd]; rfl
  | case6 i h rest ctx any hn ctx' v hd inv ho r ih =>
    rw [matching_cons_eq m rest hn, cutAtFirstStop, hd, if_pos ho, ← ih]; rfl
  | case7 i h rest ctx any hn ctx' v hd inv ho | case8 i h rest ctx any hn ctx' v hd inv ho =>
    rw [matching_cons_eq m rest hn, cutAtFirstStop, hd, ho]; rfl

theorem groupLoop_invocations : ∀ inv ∈ (groupLoop c fl m hs ctx any).1,
    ∃ h, (inv.h, h) ∈ hs ∧ m.name = h.tyName ∧ c.decode h.ty m.payload = some inv.value ∧ inv.orig = some m.id := by
  fun_induction groupLoop c fl m hs ctx any with
  | case1 | case2 | case3 | case5 => nofun
  | case4 i h rest ctx any hn ih => exact fun inv hinv => (ih inv hinv).imp fun h' hr => ⟨.tail _ hr.1, hr.2⟩
  | case6 i h rest ctx any hn ctx' v hd inv ho r ih =>
    exact List.forall_mem_cons.mpr ⟨⟨h, .head _, Decidable.of_not_not hn, hd, rfl⟩,
      fun inv' hinv => (ih inv' hinv).imp fun h' hr => ⟨.tail _ hr.1, hr.2⟩⟩
  | case7 i h rest ctx any hn ctx' v hd inv ho | case8 i h rest ctx any hn ctx' v hd inv ho =>
    exact List.forall_mem_cons.mpr ⟨⟨h, .head _, Decidable.of_not_not hn, hd, rfl⟩, nofun⟩

theorem groupLoop_result : (groupLoop c fl m hs ctx any).2 = .retNil ↔
    (AllHandle c m (matching m hs) ∧ (any = true ∨ matching m hs ≠ [] ∨ fl.ackUnknown = true)) := by
  fun_induction groupLoop c fl m hs ctx any with
  | case1 | case2 | case3 => simp [matching, AllHandle, *]
  | case4 i h rest ctx any hn ih => rw [matching_cons_ne m rest hn]; exact ih
  | case5 i h rest ctx any hn hd => simp [matching_cons_eq m rest hn, allHandle_cons, hd]
  | case6 i h rest ctx any hn ctx' v hd inv ho r ih => simp [matching_cons_eq m rest hn, allHandle_cons, hd, ho, r, ih]
  | case7 i h rest ctx any hn ctx' v hd inv ho | case8 i h rest ctx any hn ctx' v hd inv ho =>
    simp [matching_cons_eq m rest hn, allHandle_cons, ho]

/-- the loop reads AckOnUnknownEvent and no other flag -/
theorem groupLoop_congr_flags (hu : fl.ackUnknown = fl'.ackUnknown) :
    groupLoop c fl m hs ctx any = groupLoop c fl' m hs ctx any := by
  induction hs generalizing ctx any with
  | nil => simp only [groupLoop, hu]
  | cons p rest ih => simp only [groupLoop, ih]

end

/-! ### properties of the cut

  By `cutAtFirstStop`'s induction principle: the empty list (1), a head the payload does not decode for (2), a head
  that succeeds (3), a head that fails (4). -/

theorem cut_complete (c : Codec V) (m : Msg) (l : List (Nat × Handler)) (h : AllHandle c m l) :
    cutAtFirstStop c m l = l.map (·.1) := by
  fun_induction cutAtFirstStop c m l with
  | case1 => rfl
  | case2 i h0 rest hd => simpa [hd] using (h _ (.head _)).1
  | case3 i h0 rest v hd ho ih => exact congrArg (i :: ·) (ih ((allHandle_cons ..).mp h).2)
  | case4 i h0 rest v hd ho => exact absurd (h _ (.head _)).2 ho

section
variable (c : Codec V) (m : Msg) (l : List (Nat × Handler))

theorem cut_prefix : cutAtFirstStop c m l <+: l.map (·.1) := by
  fun_induction cutAtFirstStop c m l with
  | case1 | case2 => exact List.nil_prefix
  | case3 i h rest v hd ho ih => exact List.cons_prefix_cons.mpr ⟨rfl, ih⟩
  | case4 i h rest v hd ho => exact List.cons_prefix_cons.mpr ⟨rfl, List.nil_prefix⟩

theorem cut_stops (pre post : List Nat) (i : Nat) (h : cutAtFirstStop c m l = pre ++ i :: post) (hp : post ≠ []) :
    m.out i = .ok := by
  fun_induction cutAtFirstStop c m l generalizing pre with
  | case1 | case2 => simp at h
  | case3 i0 h0 rest v hd ho ih =>
    cases pre with
    | nil => exact (List.cons.inj h).1 ▸ ho
    | cons a pre' => exact ih pre' (List.cons.inj h).2
  | case4 i0 h0 rest v hd ho =>
    cases pre with
    | nil => exact absurd (List.cons.inj h).2.symm hp
    | cons a pre' => simp at h

theorem cut_stop_reason :
    cutAtFirstStop c m l = l.map (·.1) ∨
    (∃ i, (cutAtFirstStop c m l).getLast? = some i ∧ m.out i ≠ .ok) ∨
    (∃ p, l[(cutAtFirstStop c m l).length]? = some p ∧ c.decode p.2.ty m.payload = none) := by
  fun_induction cutAtFirstStop c m l with
  | case1 => exact .inl rfl
  | case2 i h rest hd => exact .inr (.inr ⟨(i, h), rfl, hd⟩)
  | case3 i h rest v hd ho ih =>
    rcases ih with h1 | ⟨j, h1, h2⟩ | ⟨p, h1, h2⟩
    · exact .inl (congrArg (i :: ·) h1)
    · refine .inr (.inl ⟨j, ?_, h2⟩)
      rw [List.getLast?_cons, h1]
      rfl
    · exact .inr (.inr ⟨p, h1, h2⟩)
  | case4 i h rest v hd ho => exact .inr (.inl ⟨i, rfl, ho⟩)

theorem not_lt_head {p : Nat × Handler} {l : List (Nat × Handler)} (hs : (p :: l).Pairwise (fun a b => a.1 < b.1)) :
    ∀ q ∈ p :: l, ¬q.1 < p.1 := by
  intro q hq
  rcases List.mem_cons.mp hq with rfl | hq
  · exact Nat.lt_irrefl _
  · exact Nat.lt_asymm ((List.pairwise_cons.mp hs).1 q hq)

theorem cut_mem_iff (hs : l.Pairwise (fun a b => a.1 < b.1)) (i : Nat) :
    i ∈ cutAtFirstStop c m l ↔
      ∃ h, (i, h) ∈ l ∧ (c.decode h.ty m.payload).isSome ∧
        ∀ q ∈ l, q.1 < i → ((c.decode q.2.ty m.payload).isSome ∧ m.out q.1 = .ok) := by
  fun_induction cutAtFirstStop c m l with
  | case1 => simp
  | case2 i0 h0 rest hd =>
    obtain ⟨hlt, -⟩ := List.pairwise_cons.mp hs
    refine iff_of_false nofun ?_
    rintro ⟨h, hm, hdec, hall⟩
    rcases List.mem_cons.mp hm with heq | hm
    · cases heq
      simp [hd] at hdec
    · simpa [hd] using (hall _ (.head _) (hlt _ hm)).1
  | case3 i0 h0 rest v hd ho ih =>
    obtain ⟨hlt, hs'⟩ := List.pairwise_cons.mp hs
    rw [List.mem_cons, ih hs']
    constructor
    · rintro (rfl | ⟨h, hm, hdec, hall⟩)
      · exact ⟨h0, .head _, by simp [hd], fun q hq hqi => absurd hqi (not_lt_head hs q hq)⟩
      · refine ⟨h, .tail _ hm, hdec, fun q hq hqi => ?_⟩
        rcases List.mem_cons.mp hq with rfl | hq
        · simp [hd, ho]
        · exact hall q hq hqi
    · rintro ⟨h, hm, hdec, hall⟩
      rcases List.mem_cons.mp hm with heq | hm
      · exact .inl (Prod.mk.inj heq).1
      · exact .inr ⟨h, hm, hdec, fun q hq => hall q (.tail _ hq)⟩
  | case4 i0 h0 rest v hd ho =>
    obtain ⟨hlt, -⟩ := List.pairwise_cons.mp hs
    rw [List.mem_singleton]
    constructor
    · rintro rfl
      exact ⟨h0, .head _, by simp [hd], fun q hq hqi => absurd hqi (not_lt_head hs q hq)⟩
    · rintro ⟨h, hm, hdec, hall⟩
      rcases List.mem_cons.mp hm with heq | hm
      · exact (Prod.mk.inj heq).1
      · exact absurd (hall _ (.head _) (hlt _ hm)).2 ho

end

end Wm.Cqrs
