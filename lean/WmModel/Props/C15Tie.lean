/-
  C15 – generated tie: the bodies of the three router handler closures of components/cqrs, extracted from the current
  Go source (`WmModel/Gen/CqrsBody.lean`, rewritten by the extractor on every run) and interpreted
  (`WmModel/GoCqrs.lean`), equal the hand-written model `Cqrs.single` / `Cqrs.group` for every codec, flag setting,
  handler position, registry (any length), message and outcome assignment; nothing in them was left unrecognised.
  Proofs split the input where the interpreter consults it; then both sides compute: `rfl` after a split into
  constructors, `simp` with the interpreter's equations where the case is a hypothesis about an opaque test.
-/
import WmModel.GoCqrs
import WmModel.Gen.CqrsBody
import WmModel.Lemmas.Cqrs
namespace Wm.GoCqrs
open Wm.Cqrs

variable {V : Type}

-- running a closure is `simp` with the interpreter's equations, case by case
attribute [local simp] block exec evalC finish initSt runSingle

theorem extracted_command_eq_model (c : Codec V) (fl : Flags) (i : Nat) (h : Handler) (m : Msg) :
    runSingle Gen.commandBody c fl i h m = some (single c .command fl i h m) := by
  by_cases hn : m.name = h.tyName
  · cases hd : c.decode h.ty m.payload with
    | none =>
      rw [single_undecodable c .command fl i hn hd]
      simp [Gen.commandBody, hn, hd]
    | some v =>
      rw [single_decoded c .command fl i hn hd]
      cases ho : m.out i <;> cases ha : fl.ackCmdErr <;>
        simp [Gen.commandBody, hn, hd, ho, ha, afterHandle, original_after_wrap]
  · rw [single_other c .command fl i hn]
    simp [Gen.commandBody, hn, onOtherName]

theorem extracted_event_eq_model (c : Codec V) (fl : Flags) (i : Nat) (h : Handler) (m : Msg) :
    runSingle Gen.eventBody c fl i h m = some (single c .event fl i h m) := by
  by_cases hn : m.name = h.tyName
  · cases hd : c.decode h.ty m.payload with
    | none =>
      rw [single_undecodable c .event fl i hn hd]
      simp [Gen.eventBody, hn, hd]
    | some v =>
      rw [single_decoded c .event fl i hn hd]
      cases ho : m.out i <;>
        simp [Gen.eventBody, hn, hd, ho, afterHandle, original_after_wrap]
  · rw [single_other c .event fl i hn]
    cases hu : fl.ackUnknown <;>
      simp [Gen.eventBody, hn, hu, onOtherName]

/-- state at the start of an iteration -/
def iterSt (s : St V) (p : Nat × Handler) : St V :=
  { s with cur := some p, expectKnown := false, value := none, err := none, ctxVar := none }

theorem loop_cons (env : Env V) (body : Stmt) (p : Nat × Handler) (rest : List (Nat × Handler)) (s : St V) :
    loop env body (p :: rest) s =
      (match exec env body (iterSt s p) with
       | .normal s' => loop env body rest s'
       | .cont s' => loop env body rest s'
       | o => o) := rfl

/-- the loop of the extracted group closure followed by its tail, from any state the loop can be in -/
theorem extracted_group_loop (c : Codec V) (fl : Flags) (m : Msg) (hs : List (Nat × Handler)) (s : St V) (any : Bool)
    (hname : s.nameRead = true) (hh : s.handled = some any) :
    (match loop ⟨c, fl, m⟩ Gen.groupLoopBody hs s with
     | .normal s' => finish (exec ⟨c, fl, m⟩ Gen.groupPost s')
     | .cont _ => none
     | o => finish o) =
    some (s.invs ++ (groupLoop c fl m hs s.msgCtx any).1, (groupLoop c fl m hs s.msgCtx any).2) := by
  induction hs generalizing s any with
  | nil =>
    cases any <;> cases hu : fl.ackUnknown <;> simp [loop, Gen.groupPost, groupLoop, hh, hu]
  | cons p rest ih =>
    obtain ⟨i, h⟩ := p
    rw [loop_cons]
    by_cases hn : m.name = h.tyName
    · cases hd : c.decode h.ty m.payload with
      | none => simp [iterSt, Gen.groupLoopBody, groupLoop, hn, hd, hname]
      | some v =>
        cases ho : m.out i
        · have hstep : exec ⟨c, fl, m⟩ Gen.groupLoopBody (iterSt s (i, h)) =
              .normal { iterSt s (i, h) with
                expectKnown := true, msgCtx := ctxWithOriginal s.msgCtx m.id,
                ctxVar := some (ctxWithOriginal s.msgCtx m.id), value := some v, err := some false,
                handled := some true, invs := s.invs ++ [⟨i, v, some m.id⟩] } := by
            simp [iterSt, Gen.groupLoopBody, hn, hd, ho, hname, hh, original_after_wrap]
          rw [hstep]
          simp only []
          rw [ih _ true]
          · simp [groupLoop, hn, hd, ho, original_after_wrap]
          · exact hname
          · rfl
        · simp [iterSt, Gen.groupLoopBody, groupLoop, hn, hd, ho, hname, hh]
        · simp [iterSt, Gen.groupLoopBody, groupLoop, hn, hd, ho, hname, hh]
    · have hstep : exec ⟨c, fl, m⟩ Gen.groupLoopBody (iterSt s (i, h)) =
          .cont { iterSt s (i, h) with expectKnown := true } := by
        simp [iterSt, Gen.groupLoopBody, hn, hname]
      rw [hstep, groupLoop, if_pos hn]
      exact ih _ any hname hh

theorem extracted_group_eq_model (c : Codec V) (fl : Flags) (reg : List Handler) (m : Msg) :
    runGroup Gen.groupPre Gen.groupLoopBody Gen.groupPost c fl reg m = some (group c fl reg m) := by
  have := extracted_group_loop c fl m (indexed reg)
    { msgCtx := m.ctx, ctxVar := none, nameRead := true, cur := none, expectKnown := false,
      value := none, err := none, handled := some false, invs := [] } false rfl rfl
  simp only [runGroup, Gen.groupPre, block, exec, initSt, group] at this ⊢
  exact this

theorem extracted_no_unknown :
    Gen.commandBody.unknowns = 0 ∧ Gen.eventBody.unknowns = 0 ∧ Gen.groupPre.unknowns = 0 ∧
    Gen.groupLoopBody.unknowns = 0 ∧ Gen.groupPost.unknowns = 0 := by decide

end Wm.GoCqrs
