/-
  Small generic library for labelled transition systems given by an executable, deterministic
  `act : σ → α → Option σ` (`none` = the action is not enabled).  All nondeterminism is in the choice
  of the action, so "every reachable state" quantifies over every schedule, every number of threads
  and every environment behaviour.  Core-only.
-/
namespace Wm.Lts

structure Sys (σ α : Type) where
  init : σ
  act  : σ → α → Option σ

variable {σ α : Type}

inductive Reach (S : Sys σ α) : σ → Prop
  | init : Reach S S.init
  | step {s s' : σ} {a : α} : Reach S s → S.act s a = some s' → Reach S s'

/-- run a list of actions; `none` as soon as one is not enabled -/
def exec (S : Sys σ α) : σ → List α → Option σ
  | s, [] => some s
  | s, a :: rest => match S.act s a with
    | some s' => exec S s' rest
    | none => none

theorem reach_of_exec (S : Sys σ α) {s s' : σ} (h : Reach S s) (run : List α)
    (he : exec S s run = some s') : Reach S s' := by
  induction run generalizing s with
  | nil => simp [exec] at he; subst he; exact h
  | cons a rest ih =>
    simp only [exec] at he
    cases hact : S.act s a with
    | none => simp [hact] at he
    | some s1 => simp [hact] at he; exact ih (Reach.step h hact) he

theorem exec_append (S : Sys σ α) (s0 s1 : σ) (run : List α) (a : α) (s2 : σ)
    (hr : exec S s0 run = some s1) (ha : S.act s1 a = some s2) : exec S s0 (run ++ [a]) = some s2 := by
  induction run generalizing s0 with
  | nil => simp [exec] at hr; subst hr; simp [exec, ha]
  | cons b rest ih =>
    simp only [exec, List.cons_append] at hr ⊢
    cases hb : S.act s0 b with
    | none => simp [hb] at hr
    | some s' => simp [hb] at hr ⊢; exact ih s' hr

theorem exec_of_reach (S : Sys σ α) {s : σ} (h : Reach S s) : ∃ run, exec S S.init run = some s := by
  induction h with
  | init => exact ⟨[], rfl⟩
  | step _ hact ih =>
    obtain ⟨run, hr⟩ := ih
    exact ⟨run ++ [_], exec_append S _ _ run _ _ hr hact⟩

/-- invariant principle; the step case may use that the pre-state is reachable (for layered invariants) -/
theorem inv_of_step' (S : Sys σ α) (I : σ → Prop) (h0 : I S.init)
    (hs : ∀ s a s', Reach S s → I s → S.act s a = some s' → I s') : ∀ s, Reach S s → I s := by
  intro s h
  induction h with
  | init => exact h0
  | step hr hact ih => exact hs _ _ _ hr ih hact

theorem inv_of_step (S : Sys σ α) (I : σ → Prop) (h0 : I S.init)
    (hs : ∀ s a s', I s → S.act s a = some s' → I s') : ∀ s, Reach S s → I s :=
  inv_of_step' S I h0 fun s a s' _ => hs s a s'

/-- potential argument with a credit per action, on any set `R` of states closed under steps: internal steps (`P`)
    lower the potential by at least one, any other action `a` raises it by at most `c a`; then in any run from a state
    in `R` the number of internal steps is at most the initial potential plus the credits of the other steps –
    internal activity is finite between environment actions (no livelock).  The bounds below are instances. -/
theorem steps_bounded_on (S : Sys σ α) (R : σ → Prop) (hR : ∀ s a s', R s → S.act s a = some s' → R s')
    (Φ : σ → Nat) (P : α → Bool) (c : α → Nat)
    (hdec : ∀ s a s', R s → S.act s a = some s' → P a = true → Φ s' + 1 ≤ Φ s)
    (hcred : ∀ s a s', R s → S.act s a = some s' → P a = false → Φ s' ≤ Φ s + c a) :
    ∀ (run : List α) (s s' : σ), R s → exec S s run = some s' →
      (run.filter P).length + Φ s' ≤ Φ s + ((run.filter (fun a => !P a)).map c).sum := by
  intro run
  induction run with
  | nil => intro s s' _ h; simp [exec] at h; subst h; simp
  | cons a rest ih =>
    intro s s' hr h
    simp only [exec] at h
    cases hact : S.act s a with
    | none => simp [hact] at h
    | some s1 =>
      simp [hact] at h
      have := ih s1 s' (hR _ _ _ hr hact) h
      cases hp : P a with
      | true => have := hdec _ _ _ hr hact hp; simp [List.filter, hp]; omega
      | false => have := hcred _ _ _ hr hact hp; simp [List.filter, hp]; omega

theorem steps_bounded_credit_fn (S : Sys σ α) (Φ : σ → Nat) (P : α → Bool) (c : α → Nat)
    (hdec : ∀ s a s', Reach S s → S.act s a = some s' → P a = true → Φ s' + 1 ≤ Φ s)
    (hcred : ∀ s a s', Reach S s → S.act s a = some s' → P a = false → Φ s' ≤ Φ s + c a) :
    ∀ (run : List α) (s s' : σ), Reach S s → exec S s run = some s' →
      (run.filter P).length + Φ s' ≤ Φ s + ((run.filter (fun a => !P a)).map c).sum :=
  steps_bounded_on S (Reach S) (fun _ _ _ h ha => .step h ha) Φ P c hdec hcred

/-- the same credit `K` for every other action -/
theorem steps_bounded_credit (S : Sys σ α) (Φ : σ → Nat) (P : α → Bool) (K : Nat)
    (hdec : ∀ s a s', Reach S s → S.act s a = some s' → P a = true → Φ s' + 1 ≤ Φ s)
    (hcred : ∀ s a s', Reach S s → S.act s a = some s' → P a = false → Φ s' ≤ Φ s + K) :
    ∀ (run : List α) (s s' : σ), Reach S s → exec S s run = some s' →
      (run.filter P).length + Φ s' ≤ Φ s + K * (run.filter (fun a => !P a)).length := by
  intro run s s' hr h
  have := steps_bounded_credit_fn S Φ P (fun _ => K) hdec hcred run s s' hr h
  rwa [List.map_const', List.sum_replicate_nat, Nat.mul_comm] at this

/-- no credit: a measure that drops on every step of a class of actions and never rises bounds the number of such
    steps in any run -/
theorem steps_bounded_reach (S : Sys σ α) (μ : σ → Nat) (P : α → Bool)
    (hdec : ∀ s a s', Reach S s → S.act s a = some s' → P a = true → μ s' < μ s)
    (hmono : ∀ s a s', Reach S s → S.act s a = some s' → P a = false → μ s' ≤ μ s) :
    ∀ (run : List α) (s s' : σ), Reach S s → exec S s run = some s' → (run.filter P).length + μ s' ≤ μ s := by
  intro run s s' hr h
  have := steps_bounded_credit_fn S μ P (fun _ => 0) hdec hmono run s s' hr h
  rwa [List.map_const', List.sum_replicate_nat, Nat.mul_zero] at this

/-- … from any state, reachable or not -/
theorem steps_bounded (S : Sys σ α) (μ : σ → Nat) (P : α → Bool)
    (hdec : ∀ s a s', S.act s a = some s' → P a = true → μ s' < μ s)
    (hmono : ∀ s a s', S.act s a = some s' → P a = false → μ s' ≤ μ s) :
    ∀ (run : List α) (s s' : σ), exec S s run = some s' → (run.filter P).length + μ s' ≤ μ s := by
  intro run s s' h
  have := steps_bounded_on S (fun _ => True) (fun _ _ _ _ _ => trivial) μ P (fun _ => 0)
    (fun s a s' _ => hdec s a s') (fun s a s' _ => hmono s a s') run s s' trivial h
  rwa [List.map_const', List.sum_replicate_nat, Nat.mul_zero] at this

end Wm.Lts
