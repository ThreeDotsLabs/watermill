/-
  The self-close watcher (watchAllHandlersStopped) of RouterLife: it exists once Run has started it, it cannot miss the
  first handler (buffered handlerAdded, fix D14), and when it is done a Close is under way or finished.
-/
import WmModel.Lemmas.RouterLifeCtl
namespace Wm.RouterLife
open Wm.Lts

def pendingCloser (s : St) : Prop :=
  ∃ k : Nat, s.closers[k]? = some CPc.wantCL ∨ s.closers[k]? = some CPc.wantHL

/-- Run has not started the watcher yet -/
def RunPc.preWatch : RunPc → Bool
  | .idle | .startWatch => true
  | _ => false

structure WatchOk (s : St) : Prop where
  w1 : s.watch = .off ↔ s.run.preWatch = true
  w2 : (s.watch = .off ∨ s.watch = .presel ∨ s.watch = .sel) → s.hs = [] ∨ s.tok = true
  w3 : s.watch = .done → s.closed = true ∨ pendingCloser s
  w4 : ∀ c, s.hl = .rh true c → s.watch ≠ .off

theorem watch_init : WatchOk init := by
  constructor <;> simp [init, RunPc.preWatch]

variable {fx : Fix} {s s' : St}

theorem pending_same (e : s'.closers = s.closers) : pendingCloser s → s'.closed = true ∨ pendingCloser s' :=
  fun ⟨k, hk⟩ => .inr ⟨k, by rw [e]; exact hk⟩

theorem pending_append (c : CPc) (e : s'.closers = s.closers ++ [c]) :
    pendingCloser s → s'.closed = true ∨ pendingCloser s' :=
  fun ⟨k, hk⟩ => .inr ⟨k, by rw [e]; exact hk.imp (append_get_of_get _ _ _ _) (append_get_of_get _ _ _ _)⟩

/-- a Close call moves on: still pending, or the router is closed now -/
theorem pending_set {k : Nat} {c0 : CPc} (c : CPc) (hk : s.closers[k]? = some c0) (e : s'.closers = s.closers.set k c)
    (hc : c = .wantHL ∨ s'.closed = true ∨ (c0 ≠ .wantCL ∧ c0 ≠ .wantHL)) :
    pendingCloser s → s'.closed = true ∨ pendingCloser s' := by
  intro ⟨j, hj⟩
  by_cases hkj : k = j
  · subst hkj
    rcases hc with hc | hc | hc
    · exact .inr ⟨k, .inr (by rw [e, hc]; exact List.getElem?_set_self (List.getElem?_eq_some_iff.mp hk).1)⟩
    · exact .inl hc
    · rw [hk] at hj
      rcases hj with hj | hj <;> cases hj
      · exact absurd rfl hc.1
      · exact absurd rfl hc.2
  · exact .inr ⟨j, by rw [e, List.getElem?_set_ne hkj]; exact hj⟩

/-- what a step leaves alone it leaves alone by computation; the other arguments say what it does to the watcher's view -/
theorem watch_frame (h : WatchOk s) (e1 : s'.watch = s.watch := by rfl)
    (e2 : s'.run.preWatch = s.run.preWatch := by rfl) (e3 : s.hs = [] → s'.hs = [] := by exact id)
    (e4 : s.tok = true → s'.tok = true := by exact id) (e5 : s.closed = true → s'.closed = true := by exact id)
    (e6 : pendingCloser s → s'.closed = true ∨ pendingCloser s' := by exact pending_same rfl)
    (e7 : ∀ c, s'.hl = .rh true c → ∃ c', s.hl = .rh true c' := by exact fun c e => ⟨c, e⟩) : WatchOk s' :=
  ⟨by rw [e1, e2]; exact h.w1, by rw [e1]; exact fun hw => (h.w2 hw).imp e3 e4,
    by rw [e1]; exact fun hw => (h.w3 hw).elim (fun hc => .inl (e5 hc)) e6,
    by rw [e1]; exact fun c hc => let ⟨c', hc'⟩ := e7 c hc; h.w4 c' hc'⟩

theorem watch_step {a : Action} (hfx : fx.d14 = true) (hc : CtlOk s) (h : WatchOk s) (hs : Step fx s a s') :
    WatchOk s' := by
  -- the watcher moves from `w` to `w'`, neither of them `off`
  have moved {w : WPc} (hw : s.watch = w) (h0 : w ≠ .off) (w' : WPc) (h1 : w' ≠ .off) :
      w' = .off ↔ s.run.preWatch = true :=
    ⟨fun e => absurd e h1, fun e => absurd (hw ▸ h.w1.mpr e) h0⟩
  cases hs with
  -- AddHandler leaves a token for the watcher (buffered channel)
  | addHandlerTok => exact ⟨h.w1, fun _ => .inr rfl, h.w3, h.w4⟩
  | addHandlerSel _ _ hd | addHandlerDrop _ _ hd => rw [hfx] at hd; cases hd
  -- Run starts the watcher before it calls RunHandlers
  | runCall _ hr => exact watch_frame h (e2 := by rw [hr]; rfl)
  | runWatch hr hf =>
    have hoff : s.watch = .off := h.w1.mpr (by rw [hr]; rfl)
    refine ⟨⟨fun e => ?_, nofun⟩, fun _ => h.w2 (.inl hoff), fun e => ?_, fun c e => by rw [hf] at e; cases e⟩
    all_goals (split at e <;> cases e)
  | runRh hr =>
    have hw : s.watch ≠ .off := fun e => by have := h.w1.mp e; rw [hr] at this; cases this
    exact ⟨⟨fun e => absurd e hw, nofun⟩, h.w2, h.w3, fun _ _ => hw⟩
  | runRunning hr | runCancelStep hr | runRet hr =>
    exact watch_frame h (e2 := by rw [hr]; rfl)
  -- RunHandlers: Run's own call holds the lock only after the watcher was started
  | rhCall => exact watch_frame h (e7 := nofun)
  | rhSub hhl | rhStep0 hhl | rhStep1 hhl | rhSpawn hhl =>
    exact watch_frame h (e3 := modify_nil) (e7 := fun _ e => by cases e; exact ⟨_, hhl⟩)
  | @rhSubFail _ v _ hhl | @rhEnd v hhl =>
    cases v with
    | false => exact watch_frame h (e7 := nofun)
    | true =>
      have hw := h.w4 _ hhl
      exact ⟨⟨fun e => absurd e hw, nofun⟩, h.w2, h.w3, nofun⟩
  -- Close
  | closeCall => exact watch_frame h (e6 := pending_append _ rfl)
  | closeCL hk => exact watch_frame h (e6 := pending_set _ hk rfl (.inl rfl))
  | closeHLAgain hk _ hcl => exact watch_frame h (e6 := pending_set _ hk rfl (.inr (.inl hcl)))
  | closeHL => exact watch_frame h (e5 := fun _ => rfl) (e6 := fun _ => .inl rfl) (e7 := nofun)
  | closeDone hk | closeTimeout hk =>
    exact watch_frame h (e6 := fun _ => .inl (hc.k1 _ hk).1) (e7 := nofun)
  -- the watcher
  | watchArrive hw => exact ⟨moved hw nofun .sel nofun, fun _ => h.w2 (.inr (.inl hw)), nofun, fun _ _ => nofun⟩
  | watchTok hw => exact ⟨moved hw nofun .wait nofun, nofun, nofun, fun _ _ => nofun⟩
  | watchZero hw => exact ⟨moved hw nofun .check nofun, nofun, nofun, fun _ _ => nofun⟩
  | watchClosed hw hcc => exact ⟨moved hw nofun .done nofun, nofun, fun _ => .inl (hc.k5.1 hcc), fun _ _ => nofun⟩
  | watchCheckClosed hw _ hcl => exact ⟨moved hw nofun .done nofun, nofun, fun _ => .inl hcl, fun _ _ => nofun⟩
  | watchCheck hw =>
    exact ⟨moved hw nofun .done nofun, nofun, fun _ => .inr ⟨s.closers.length, .inl List.getElem?_concat_length⟩,
      fun _ _ => nofun⟩
  -- steps of a handler keep the handler table non-empty
  | emit | pumpOut | pumpDrop | pumpEnd | innerCtx | dispatch | loopEnd | pubClose | wgDone | loopDelete | hcClose
  | hcCtxClose | hcCtxStop | hcInnerRet | hcCloseFail | hcPumpWaited | hcStop | stop =>
    exact watch_frame h (e3 := modify_nil)
  | _ => exact watch_frame h

theorem reach_watch (fx : Fix) (hfx : fx.d14 = true) : ∀ s, Reach (sys fx) s → WatchOk s :=
  inv_of_step' (sys fx) WatchOk watch_init fun s _ _ hr h ha => watch_step hfx (reach_ctl fx s hr) h (step_of_act ha)

end Wm.RouterLife
