/-
  C02 – generated tie: the skeletons of `handleMessage` / `publishProducedMessages` / `disabledPublisher.Publish`
  extracted from the current Go source (`WmModel/Gen/HandleBody.lean`, rewritten by the extractor on every run),
  interpreted with Go's defer/recover/return semantics (`WmModel/GoHandle.lean`), yield exactly the effect list of
  the hand-written model – for every handler configuration, every behaviour of the handler chain (any outputs,
  any message identity type) and every behaviour of the publisher.
  Proofs split the input where the interpreter consults it; then both sides compute (`rfl`).
-/
import WmModel.GoHandle
import WmModel.Gen.HandleBody
namespace Wm.GoHandle
open Wm.Handle

theorem handle_skeleton_eq_model {α : Type} (c : Cfg) (o : Outcome α) (p : PubOutcome) :
    exec Gen.handleBody Gen.publishBody Gen.disabledPublish c o p = some (handle c o p) := by
  rcases o with ⟨s, r⟩
  -- The interpreter looks at the publisher's kind only when there are outputs to publish, and at its verdict only
  -- when it is a real publisher's: the cases are split no further than that.  (`s` is split because the
  -- interpreter appends effects on the right and the model on the left of the chain's own settlement.)
  -- One error message instead of one per case when the extracted skeleton no longer matches:
  first
    | (cases r with
       | panics v => rcases s with _ | _ | _ <;> rfl
       | returns outs e =>
         cases e with
         | true => rcases s with _ | _ | _ <;> rfl
         | false =>
           cases outs with
           | nil => rcases s with _ | _ | _ <;> rfl
           | cons x xs =>
             rcases c with ⟨k, t⟩
             cases k with
             | withPub => cases p <;> rcases s with _ | _ | _ <;> rfl
             | disabled => rcases s with _ | _ | _ <;> rfl
             | nilPub => rcases s with _ | _ | _ <;> rfl)
    | fail "the skeleton of handleMessage/publishProducedMessages extracted from the Go source differs from Wm.Handle.handle"

/-- `publishProducedMessages` alone: effects and result equal the model's `publishProduced` -/
theorem publish_skeleton_eq_model {α : Type} (c : Cfg) (outs : List α) (p : PubOutcome) :
    execP Gen.disabledPublish c outs p Gen.publishBody [] = some (publishProduced c outs p) := by
  rcases c with ⟨k, t⟩
  first
    | (cases outs <;> cases k <;> cases p <;> rfl)
    | fail "the skeleton of publishProducedMessages extracted from the Go source differs from Wm.Handle.publishProduced"

/-- the deferred `Done()` is registered first (runs last) and the recovering function settles the message -/
theorem skeleton_defers :
    Gen.handleBody.take 2 = [.deferDone, .deferRecover [.nack]] := by rfl

/-! non-vacuity (independent of the generated file): the interpreter is not trivially `some`/`none` – a body without
    the Nack in the error branch, or with the Ack before publishing, is told apart from the model, and a panic
    nobody recovers is `none` -/
def refPublishBody : List PStmt := [.ifNoOutsRetNil, .ifNilPubRetErr, .ifPublishErrRetErr, .retNil]

example : exec [.deferDone, .deferRecover [.nack], .callHandler, .ifErr [.ret], .simple .addCtx,
      .ifPublishErr [.nack, .ret], .simple .ack] refPublishBody .retErrNoPublisher
      ⟨.withPub, "t"⟩ (⟨none, .returns [] true⟩ : Outcome Nat) .accept
    = some [.handlerCalled, .done] := by rfl
example : exec [.deferDone, .deferRecover [.nack], .callHandler, .ifErr [.nack, .ret], .simple .addCtx, .simple .ack,
      .ifPublishErr [.nack, .ret]] refPublishBody .retErrNoPublisher
      ⟨.withPub, "t"⟩ (⟨none, .returns [1] false⟩ : Outcome Nat) .error
    = some [.handlerCalled, .addCtx [1], .routerAck, .publishCall "t" [1], .publishRet .error, .routerNack, .done] := by rfl
example : exec [.deferDone, .callHandler] refPublishBody .retErrNoPublisher
      ⟨.withPub, "t"⟩ (⟨none, .panics .value⟩ : Outcome Nat) .accept = none := by rfl
example : exec [.deferRecover [.nack], .deferDone, .callHandler] refPublishBody .retErrNoPublisher
      ⟨.withPub, "t"⟩ (⟨none, .panics .value⟩ : Outcome Nat) .accept
    = some [.handlerCalled, .done, .recovered, .routerNack] := by rfl

end Wm.GoHandle
